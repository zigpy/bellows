/-
C14 — network settings survive a write / read round trip through the NCP.
Model: BV.NetInfo (write_network_info / load_network_info with the per-version accessors over an abstract
NCP store); generated command tables and the generated accessor-definer table.
-/
import BV.Model.App.NetInfo
import BV.Model.Ezsp.Codec
import BV.Gen.Commands
import BV.Gen.Accessors
namespace BV.Props.C14
open BV.NetInfo BV.Codec BV.Gen.Commands BV.Gen.Accessors

/-- field names up to the two naming styles (`childData` / `child_data`) -/
def norm (s : String) : String := String.ofList ((s.toList.filter (· ≠ '_')).map Char.toLower)
def rxShape (v : Nat) (c : String) : Option (List String) := (findByName (cmds v) c).map fun x => x.rx.map (norm ∘ (·.1))
def txShape (v : Nat) (c : String) : Option (List String) := (findByName (cmds v) c).map fun x => x.tx.map (norm ∘ (·.1))
def rxLen (v : Nat) (c : String) : Option Nat := (findByName (cmds v) c).map (·.rx.length)

/-- for version `v`, method `m` supplied by the class of version `d`: every command that implementation
awaits (table generated from its syntax tree) exists in `v` with the argument names of version `d`; where a
response is used, its field order is that of version `d`; and where it is unpacked by a tuple assignment, the
number of names is the number of response fields of version `v`.  The header methods (`_ezsp_frame_tx` / `_rx`)
await no command and are exempt; `c07_src_header_classes` is about them. -/
def shapeOk (v : Nat) (m : String) (d : Nat) : Bool :=
  m.startsWith "_ezsp_frame" ||
  match commandsUsed.lookup (m, d) with
  | none => false          -- an implementation the translator did not see
  | some cs => cs.all fun (c, ignored, arity) =>
      (rxShape v c).isSome && txShape v c == txShape d c && (ignored || rxShape v c == rxShape d c)
        && (arity == 0 || rxLen v c == some arity)

/-- **accessor shapes, every version 4..14 and every accessor / send wrapper**: the method a version's
handler resolves to (through its class hierarchy, table generated by reflection) was written against
response and argument shapes that are still the shapes of that version's own command table -/
theorem c14_accessor_shapes : definedBy.all (fun (v, m, d) => shapeOk v m d) = true := by
  decide +kernel

theorem set_first_free {α} (pre : List (Option α)) (f : Nat) (e : α) :
    (pre ++ List.replicate (f + 1) none).set pre.length (some e) = pre ++ [some e] ++ List.replicate f none := by
  rw [List.set_append_right _ _ (Nat.le_refl _)]
  simp [List.replicate_succ]

/-- importLinkKey path (v ≥ 13): entry `i` of the table is key `i` -/
theorem import_fold (ks : List (Key × Nat)) (pre : List (Option (Nat × Key))) (free : Nat)
    (h : ks.length ≤ free) (start : Nat) (hs : start = pre.length) :
    (ks.zipIdx start).foldl (fun t x => importAt t x.2 x.1.2 x.1.1) (pre ++ List.replicate free none) =
      pre ++ ks.map (fun x => some (x.2, x.1)) ++ List.replicate (free - ks.length) none := by
  induction ks generalizing pre free start with
  | nil => simp
  | cons k ks ih =>
    cases free with
    | zero => simp at h
    | succ f =>
      simp only [List.zipIdx_cons, List.foldl_cons]
      subst hs
      have hlt : pre.length < (pre ++ List.replicate (f + 1) none).length := by simp
      rw [importAt, if_pos hlt, set_first_free, ih (pre ++ [some (k.2, k.1)]) f (by simpa using h) _ (by simp)]
      simp [List.append_assoc]

theorem addOrUpdate_fresh (pre : List (Nat × Key)) (f : Nat) (partner : Nat) (k : Key)
    (hnew : ∀ e ∈ pre, e.1 ≠ partner) :
    addOrUpdate (pre.map some ++ List.replicate (f + 1) none) partner k =
      (pre ++ [(partner, k)]).map some ++ List.replicate f none := by
  -- no entry of the table is `partner`'s, and its first free slot is the one behind `pre`
  have hany : (pre.map some ++ List.replicate (f + 1) none).any (isPartner partner) = false := by
    rw [List.any_append, List.any_map, List.any_replicate]
    simpa [isPartner, List.any_eq_false] using fun a b h => hnew (a, b) h
  have hidx : (pre.map some ++ List.replicate (f + 1) none).findIdx? Option.isNone = some pre.length := by
    rw [List.findIdx?_append, List.findIdx?_eq_none_iff.mpr fun x hx => by
      obtain ⟨y, -, rfl⟩ := List.mem_map.mp hx; simp]
    simp [List.replicate_succ, List.findIdx?_cons]
  rw [addOrUpdate, hany, if_neg Bool.false_ne_true, hidx]
  simpa using set_first_free (pre.map some) f (partner, k)

/-- addOrUpdateKeyTableEntry path (v < 13) with pairwise distinct partners: the same table -/
theorem addOrUpdate_fold (ks : List (Key × Nat)) (pre : List (Nat × Key)) (free : Nat) (h : ks.length ≤ free)
    (hd : (pre.map (·.1) ++ ks.map (·.2)).Nodup) :
    ks.foldl (fun t x => addOrUpdate t x.2 x.1) (pre.map some ++ List.replicate free none) =
      (pre ++ ks.map fun x => (x.2, x.1)).map some ++ List.replicate (free - ks.length) none := by
  induction ks generalizing pre free with
  | nil => simp
  | cons k ks ih =>
    cases free with
    | zero => simp at h
    | succ f =>
      -- `k`'s partner is new to the table, and moving it from the keys to come to the table keeps `hd`
      have hnew : ∀ e ∈ pre, e.1 ≠ k.2 := fun e he heq =>
        (List.nodup_append.mp hd).2.2 _ (List.mem_map_of_mem he) _ (by simp) heq
      rw [List.foldl_cons, addOrUpdate_fresh pre f k.2 k.1 hnew,
        ih (pre ++ [(k.2, k.1)]) f (by simpa using h) (by simpa [List.append_assoc] using hd)]
      simp [List.append_assoc]

theorem writeLinkKeys_spec (v K : Nat) (ks : List (Key × Nat)) (h : ks.length ≤ K)
    (hd : (ks.map (·.2)).Nodup) :
    writeLinkKeys v (List.replicate K none) ks =
      ks.map (fun x => some (x.2, x.1)) ++ List.replicate (K - ks.length) none := by
  unfold writeLinkKeys
  split
  · have := addOrUpdate_fold ks [] K h (by simpa using hd)
    simpa [Function.comp_def] using this
  · have := import_fold ks [] K h 0 rfl
    simpa [Function.comp_def] using this

/-- **round trip, every protocol version**: after a factory reset, writing settings and reading them back
returns the same network parameters (PAN ID, extended PAN ID, channel, mask, update ID), network key and
sequence number, link-key table (key and partner, in order) - and, where the version can store them, the
network-key frame counter (v ≥ 5) and the children with their addresses (v ≥ 9); the hashed form kept in
stack-specific data is the one supplied (or the generated one) for v > 4; the trust-centre link key itself
comes back when the version does not hash it (v ≤ 4) or when it is the well-known key -/
theorem c14_roundtrip_partial (v : Nat) (n : Ncp) (s : Settings) (gen : Key) (hk : s.linkKeys.length ≤ n.K)
    (hd : (s.linkKeys.map (·.2)).Nodup) (htc : v ≤ 4 ∨ s.tclk = wellKnown) :
    ∃ l, load v (write v s gen (reset v n)) = some l ∧
      l.params = s.params ∧ l.nwkKey = s.nwkKey ∧ l.nwkSeq = s.nwkSeq ∧ l.linkKeys = s.linkKeys ∧
      l.tclk = s.tclk ∧
      (v > 4 → l.hashed = some (s.hashed.getD gen)) ∧ (v ≤ 4 → l.hashed = none) ∧
      (v ≥ 5 → l.nwkFc = s.nwkFc) ∧ (v ≥ 9 → l.children = s.children) := by
  refine ⟨_, rfl, rfl, rfl, rfl, ?linkKeys, ?tclk, ?hashedAbove4, ?hashedUpTo4, ?nwkFc, ?children⟩
  case linkKeys =>
    simp only [write, reset, writeLinkKeys_spec v n.K s.linkKeys hk hd]
    rw [List.filterMap_append]
    simp [List.filterMap_map, Function.comp_def, List.filterMap_replicate_of_none]
  case tclk =>
    by_cases h4 : v > 4
    · have : s.tclk = wellKnown := by rcases htc with h | h; omega; exact h
      simp [h4, this]
    · simp [h4]
  case hashedAbove4 => intro h; simp [h]
  case hashedUpTo4 =>
    intro h
    have : ¬ v > 4 := by omega
    simp [this]
  case nwkFc => intro h; simp [write, h]
  case children =>
    intro h
    simp only [write, h, ↓reduceIte]
    simp only [List.map_map, Function.comp_def]
    exact List.zipIdx_map_fst 0 s.children

/-- **the security state sent**: it carries the supplied network key and sequence number, the
hashed-link-key flag exactly when the version is above 4, and below that the supplied TC link key itself -/
theorem c14_security_state (v : Nat) (s : Settings) (gen : Key) (n : Ncp) :
    ∃ sec, (write v s gen n).sec = some sec ∧ sec.nwkKey = s.nwkKey ∧ sec.nwkSeq = s.nwkSeq ∧
      (sec.hashedFlag = true ↔ v > 4) ∧ (v ≤ 4 → sec.preconfigured = s.tclk) ∧
      (v > 4 → sec.preconfigured = s.hashed.getD gen) ∧ sec.haveTcEui64 = s.tcPartnerKnown := by
  refine ⟨_, rfl, rfl, rfl, ?_, ?_, ?_, rfl⟩
  · simp
  · intro h
    have : ¬ v > 4 := by omega
    simp [this]
  · intro h; simp [h]

/-- **the part of the round trip that does not hold** (recorded as a known finding): above version 4 a
trust-centre link key other than the well-known one is not what the read-back reports - the NCP is given only
a hashed key and `load_network_info` reports the well-known key -/
theorem c14_custom_tclk_not_preserved (v : Nat) (n : Ncp) (s : Settings) (gen : Key) (h4 : v > 4) (hne : s.tclk ≠ wellKnown) :
    ∃ l, load v (write v s gen (reset v n)) = some l ∧ l.tclk ≠ s.tclk := by
  refine ⟨_, rfl, ?_⟩
  simp only [h4, decide_true, ↓reduceIte]
  exact fun h => hne h.symm

def sample : Settings :=
  { params := ⟨0x1234, 77, 15, 0x8000, 3⟩, nwkKey := List.replicate 16 1, nwkSeq := 2, nwkFc := 4096, tclk := wellKnown,
    hashed := none, tcPartnerKnown := true, linkKeys := [(List.replicate 16 7, 100), (List.replicate 16 8, 200)],
    children := [(300, 5), (400, 6)] }

/-- the hypotheses of `c14_roundtrip_partial` are met by a concrete settings value (v = 13, the well-known key), with
its link keys read back; the last example is `c14_custom_tclk_not_preserved` on one (v = 8, a custom key) -/
example : sample.linkKeys.length ≤ 8 ∧ (sample.linkKeys.map (·.2)).Nodup ∧ ((13 : Nat) ≤ 4 ∨ sample.tclk = wellKnown) := by
  decide
example : (load 13 (write 13 sample [9] (factoryFresh 8))).map (·.linkKeys) = some sample.linkKeys := by decide
example : (load 8 (write 8 { sample with tclk := [1] } [9] (factoryFresh 8))).map (·.tclk) = some wellKnown := by decide

end BV.Props.C14
