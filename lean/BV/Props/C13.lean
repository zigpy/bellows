/-
C13 — incoming NCP callbacks are translated faithfully for every protocol version.
Model: BV.Callbacks over the codec model; schemas from the generated command tables.
-/
import BV.Model.App.Callbacks
namespace BV.Props.C13
open BV.Callbacks BV.Codec BV.Gen.App BV.Gen.Commands

def rxNames (v : Nat) (name : String) : Option (List String) :=
  (findByName (cmds v) name).map fun c => c.rx.map (·.1)

/-- **field positions, every version 4..14**: in the version's `incomingMessageHandler` schema the field at
each position the handler unpacks has the role the handler gives it (pre-v14 order and v14 order alike) -/
theorem c13_field_positions : ∀ v ∈ versions,
    (rxNames v "incomingMessageHandler").map (·.map roleOfName) = some ((incomingOrder v).map some) := by
  decide +kernel

/-- the trust-centre join callback has the five fields, in the order `_handle_tc_join_handler` takes them,
in every version -/
theorem c13_tcjoin_positions : ∀ v ∈ versions,
    rxNames v "trustCenterJoinHandler" =
      some ["newNodeId", "newNodeEui64", "status", "policyDecision", "parentOfNewNodeId"] := by
  decide +kernel

/-- the delivery-confirmation callback: (type, destination, APS frame, tag, status, message) before v14,
(status, type, destination, APS frame, tag, message) from v14 on — the two orders `ezsp_callback_handler`
unpacks -/
theorem c13_message_sent_positions : ∀ v ∈ versions,
    rxNames v "messageSentHandler" =
      some (if v ≥ 14 then ["status", "message_type", "nwk", "aps_frame", "message_tag", "message"]
            else ["type", "indexOrDestination", "apsFrame", "messageTag", "status", "messageContents"]) := by
  decide +kernel

def apsVal (prof clus sep dep opts grp seq : Nat) : Val :=
  .seq [.num prof, .num clus, .num sep, .num dep, .num opts, .num grp, .num seq]

theorem apsField_vals (prof clus sep dep opts grp seq : Nat) :
    apsField (apsVal prof clus sep dep opts grp seq) "groupId" = some grp ∧
    apsField (apsVal prof clus sep dep opts grp seq) "sourceEndpoint" = some sep ∧
    apsField (apsVal prof clus sep dep opts grp seq) "destinationEndpoint" = some dep ∧
    apsField (apsVal prof clus sep dep opts grp seq) "sequence" = some seq ∧
    apsField (apsVal prof clus sep dep opts grp seq) "profileId" = some prof ∧
    apsField (apsVal prof clus sep dep opts grp seq) "clusterId" = some clus := ⟨rfl, rfl, rfl, rfl, rfl, rfl⟩

/-- what `_handle_frame` produces from the unpacked roles -/
def expected (own mt prof clus sep dep grp seq lqi rssi sender : Nat) (p : List UInt8) : Option Packet :=
  if mt = incoming_INCOMING_BROADCAST ∨ mt = incoming_INCOMING_MULTICAST ∨ mt = incoming_INCOMING_UNICAST then
    some { src := sender, srcEp := sep,
           dst := if mt = incoming_INCOMING_BROADCAST then .broadcast broadcastAllRoutersAndCoordinator
                  else if mt = incoming_INCOMING_MULTICAST then .group grp else .nwk own,
           dstEp := dep, tsn := seq, profile := prof, cluster := clus, data := p, lqi := lqi, rssi := int8 rssi }
  else none

/-- `incomingMessage` sees the callback's arguments only through the six roles it unpacks, whatever their order -/
theorem incomingMessage_of_roles {v own mt prof clus sep dep opts grp seq lqi rssi sender : Nat} {p : List UInt8}
    {order : List Role} {vals : List Val} (ho : incomingOrder v = order) (hl : vals.length = order.length)
    (g0 : getRole order vals .mtype = some (.num mt))
    (g1 : getRole order vals .aps = some (apsVal prof clus sep dep opts grp seq))
    (g2 : getRole order vals .lqi = some (.num lqi)) (g3 : getRole order vals .rssi = some (.num rssi))
    (g4 : getRole order vals .sender = some (.num sender)) (g5 : getRole order vals .payload = some (.bytes p)) :
    incomingMessage v own vals = some (expected own mt prof clus sep dep grp seq lqi rssi sender p) := by
  obtain ⟨f1, f2, f3, f4, f5, f6⟩ := apsField_vals prof clus sep dep opts grp seq
  simp only [incomingMessage, ho, hl, g0, g1, g2, g3, g4, g5, expected]
  have n1 : incoming_INCOMING_MULTICAST ≠ incoming_INCOMING_BROADCAST := by decide
  have n2 : incoming_INCOMING_UNICAST ≠ incoming_INCOMING_BROADCAST := by decide
  have n3 : incoming_INCOMING_UNICAST ≠ incoming_INCOMING_MULTICAST := by decide
  by_cases h1 : mt = incoming_INCOMING_BROADCAST
  · subst h1; simp [numOf, f1, f2, f3, f4, f5, f6]
  · by_cases h2 : mt = incoming_INCOMING_MULTICAST
    · subst h2; simp [numOf, f1, f2, f3, f4, f5, f6, n1]
    · by_cases h3 : mt = incoming_INCOMING_UNICAST
      · subst h3; simp [numOf, f1, f2, f3, f4, f5, f6, n2, n3]
      · simp [numOf, f1, f2, f3, f4, f5, f6, h1, h2, h3]

/-- the destination by message type and the packet fields, for the pre-v14 argument order: exactly one
packet for unicast / multicast / broadcast with every listed field equal to the callback's, none for
other message types -/
theorem c13_packet_pre14 (v : Nat) (hv : v < 14) (own mt prof clus sep dep opts grp seq lqi rssi sender b a : Nat)
    (p : List UInt8) :
    incomingMessage v own [.num mt, apsVal prof clus sep dep opts grp seq, .num lqi, .num rssi, .num sender, .num b, .num a, .bytes p] =
      some (expected own mt prof clus sep dep grp seq lqi rssi sender p) :=
  incomingMessage_of_roles (if_neg (Nat.not_le.mpr hv)) rfl rfl rfl rfl rfl rfl rfl

/-- … and for the v14 argument order (the extra EUI64 and timestamp fields are ignored) -/
theorem c13_packet_v14 (v : Nat) (hv : v ≥ 14) (own mt prof clus sep dep opts grp seq lqi rssi sender b a ts : Nat)
    (eui : Val) (p : List UInt8) :
    incomingMessage v own [.num mt, apsVal prof clus sep dep opts grp seq, .num sender, eui, .num b, .num a, .num lqi, .num rssi, .num ts, .bytes p] =
      some (expected own mt prof clus sep dep grp seq lqi rssi sender p) :=
  incomingMessage_of_roles (if_pos hv) rfl rfl rfl rfl rfl rfl rfl

/-- **join / leave triage**: a departure yields a leave with the reported addresses whatever the policy
decision; otherwise a denied join yields nothing and any other decision a join with the reported
addresses and parent -/
theorem c13_join (nwk st dec parent : Nat) (ieee : List Nat) :
    tcJoin [.num nwk, .seq (ieee.map Val.num), .num st, .num dec, .num parent] =
      some (if st = deviceLeft then .leave nwk ieee else if dec = denyJoin then .nothing else .join nwk ieee parent) := by
  have hi : ieeeOf (.seq (ieee.map Val.num)) = some ieee := by
    simp only [ieeeOf]
    induction ieee with
    | nil => rfl
    | cons x xs ih => simp [List.mapM_cons, numOf, ih]
  simp only [tcJoin, numOf, hi]
  by_cases h1 : st = deviceLeft
  · simp [h1]
  · by_cases h2 : dec = denyJoin <;> simp [h1, h2]

theorem c13_rssi_signed : int8 0 = 0 ∧ int8 127 = 127 ∧ int8 128 = -128 ∧ int8 255 = -1 := by decide

end BV.Props.C13
