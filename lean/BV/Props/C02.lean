/-
C02 — the ASH receiver decodes any byte stream like the reference decoder, however it is
split into reads.
Model: BV.Ash.feedChunk (data_received).  Spec: BV.Spec.Ash.refDecode (per-byte automaton,
specification unstuffing and frame decoding).
-/
import BV.Proofs.Ash.DecLemmas
import BV.Proofs.Ash.ParseSpec
import BV.Props.C03
import BV.Props.C04
import BV.Proofs.Src.AshDec
namespace BV.Props.C02
open BV.Ash BV.Spec.Ash BV.Gen.Ash

/-- receiver invariant under which replies are well-formed frames -/
def RxOk (s : Rx) : Prop := s.open_ = true ∧ s.rxSeq < 8

theorem onFrame_rxOk (s : Rx) (f : Frame) (h : RxOk s) : RxOk (onFrame s f).1 := by
  refine ⟨by rw [BV.Ash.onFrame_open]; exact h.1, ?_⟩
  obtain ⟨hack, hnak, hrst, hrstack, herr⟩ := C04.c04_control_frames s
  cases f with
  | data n r a p =>
    have h1 : (onFrame s (.data n r a p)).1.rxSeq = (if n = s.rxSeq then (n + 1) % 8 else s.rxSeq) :=
      (C04.c04_one_reply s h.1 n r a p).1
    rw [h1]; split
    · omega
    · exact h.2
  | ack x y a => rw [(hack x y a).2]; exact h.2
  | nak x y a => rw [(hnak x y a).2]; exact h.2
  | rst => rw [hrst.2]; exact h.2
  | rstack v c => rw [(hrstack v c).2.1]; omega
  | error v c => rw [(herr v c).2.1]; exact h.2

theorem onSegment_ref (s : Rx) (h : RxOk s) (seg : List UInt8) : onSegment s seg = refSegment s seg := by
  have hw : writeFrame s [resCancel] (.nak false false s.rxSeq) = some (specNak s.rxSeq) := by
    simp only [writeFrame, h.1, ↓reduceIte, specNak]
    rw [C03.c03_write_frame [resCancel] _ (show (Frame.nak false false s.rxSeq).WF from h.2)]
    rfl
  unfold onSegment refSegment
  rw [unstuff_spec]
  cases hu : specUnstuff seg with
  | none => simp [hw]
  | some d =>
    simp only [Option.bind_some]
    have hp := parse_spec d
    cases hpd : parse d with
    | error e => rw [hpd] at hp; simp [Except.toOption] at hp; simp [← hp, hw]
    | ok f => rw [hpd] at hp; simp [Except.toOption] at hp; simp [← hp]

theorem onSegment_rxOk (s : Rx) (h : RxOk s) (seg : List UInt8) : RxOk (onSegment s seg).1 := by
  unfold onSegment
  split
  · exact h
  · split
    · exact h
    · exact onFrame_rxOk s _ h

theorem onSegments_ref (s : Rx) (h : RxOk s) (segs : List (List UInt8)) :
    onSegments s segs = refSegments s segs := by
  induction segs generalizing s with
  | nil => rfl
  | cons g gs ih =>
    simp only [onSegments, refSegments]
    rw [← onSegment_ref s h g, ih _ (onSegment_rxOk s h g)]

/-- decoder invariant: the remainder holds no boundary byte and is empty while discarding -/
def DecOk (s : Dec) : Prop := NoRwe s.buf ∧ (s.disc = true → s.buf = [])

/-- no unterminated remainder (under any split into reads) exceeds the buffer limit -/
def AccBounded (a : Acc) (stream : List UInt8) : Prop :=
  ∀ n, (runBytes a (stream.take n)).1.acc.length ≤ maxBufferSize

theorem feedChunk_ref (s : Dec) (hs : DecOk s) (c : List UInt8)
    (hb : (runBytes ⟨s.buf, s.disc⟩ c).1.acc.length ≤ maxBufferSize) :
    feedChunk s c =
      ({ buf := (runBytes ⟨s.buf, s.disc⟩ c).1.acc, disc := (runBytes ⟨s.buf, s.disc⟩ c).1.disc,
         rx := (onSegments s.rx (runBytes ⟨s.buf, s.disc⟩ c).2).1 },
       (onSegments s.rx (runBytes ⟨s.buf, s.disc⟩ c).2).2) := by
  unfold feedChunk
  simp only
  rw [scan_refines s.buf c s.disc hs.1 hs.2]
  simp only [out, truncate]
  have : ¬ (runBytes ⟨s.buf, s.disc⟩ c).1.acc.length > maxBufferSize := by omega
  simp [this]

/-- **stream equivalence**: for every stream whose unterminated remainders fit the buffer, and every
way of splitting it into reads, the events produced by `data_received` (upward payloads, reset
notifications, ACK/NAK bytes, in order) are those of the per-byte automaton on the whole stream -/
theorem c02_stream_equiv_segments (s : Dec) (hs : DecOk s) (chunks : List (List UInt8))
    (hb : AccBounded ⟨s.buf, s.disc⟩ chunks.flatten) :
    (feedChunks s chunks).2 = (onSegments s.rx (runBytes ⟨s.buf, s.disc⟩ chunks.flatten).2).2 ∧
    (feedChunks s chunks).1.buf = (runBytes ⟨s.buf, s.disc⟩ chunks.flatten).1.acc ∧
    (feedChunks s chunks).1.disc = (runBytes ⟨s.buf, s.disc⟩ chunks.flatten).1.disc := by
  induction chunks generalizing s with
  | nil => simp [feedChunks, runBytes, onSegments]
  | cons c cs ih =>
    have hc : (runBytes ⟨s.buf, s.disc⟩ c).1.acc.length ≤ maxBufferSize := by
      simpa using hb c.length
    have hres := run_residue ⟨s.buf, s.disc⟩ c hs.1 hs.2
    simp only [feedChunks, List.flatten_cons]
    rw [feedChunk_ref s hs c hc, run_append]
    have hb' : AccBounded (runBytes ⟨s.buf, s.disc⟩ c).1 cs.flatten := by
      intro n
      have := hb (c.length + n)
      rwa [List.flatten_cons, List.take_length_add_append, run_append] at this
    obtain ⟨h1, h2, h3⟩ := ih (⟨(runBytes ⟨s.buf, s.disc⟩ c).1.acc, (runBytes ⟨s.buf, s.disc⟩ c).1.disc,
        (onSegments s.rx (runBytes ⟨s.buf, s.disc⟩ c).2).1⟩ : Dec) hres hb'
    simp only at h1 h2 h3
    refine ⟨?_, h2, h3⟩
    rw [h1, onSegments_append]

/-- **reference decoder**: with the transport open, the events are those of the specification's
decoder (flag / escape / cancel / substitute / XON-XOFF handling, length and CRC checks, the
receiver's ACK/NAK rules) run over the concatenated stream -/
theorem c02_stream_equiv (s : Dec) (hs : DecOk s) (hrx : RxOk s.rx) (chunks : List (List UInt8))
    (hb : AccBounded ⟨s.buf, s.disc⟩ chunks.flatten) :
    (feedChunks s chunks).2 = refDecode s.rx ⟨s.buf, s.disc⟩ chunks.flatten := by
  rw [(c02_stream_equiv_segments s hs chunks hb).1, onSegments_ref s.rx hrx]
  rfl

/-- any two ways of splitting one stream into reads give identical events -/
theorem c02_chunking_independent (s : Dec) (hs : DecOk s) (c1 c2 : List (List UInt8))
    (heq : c1.flatten = c2.flatten) (hb : AccBounded ⟨s.buf, s.disc⟩ c1.flatten) :
    (feedChunks s c1).2 = (feedChunks s c2).2 := by
  rw [(c02_stream_equiv_segments s hs c1 hb).1, (c02_stream_equiv_segments s hs c2 (heq ▸ hb)).1, heq]

/-- the state hypotheses of the theorems above are met by the initial state -/
example : DecOk {} ∧ RxOk {} := by
  refine ⟨⟨by intro b hb; simp at hb, by simp⟩, rfl, by decide⟩

/-- memory: after every read, whatever arrived, the remainder kept is at most `MAX_BUFFER_SIZE` bytes -/
theorem c02_buffer_bounded (s : Dec) (c : List UInt8) : (feedChunk s c).1.buf.length ≤ maxBufferSize := by
  unfold feedChunk truncate
  simp only
  split
  · simp [List.length_drop]; omega
  · omega

/-- an upward delivery only ever comes from a segment that unstuffs correctly and parses, with a
valid CRC, as a DATA frame carrying exactly that payload with the expected frame number -/
theorem c02_no_bad_delivery (s : Rx) (seg : List UInt8) (p : List UInt8)
    (h : Ev.up p ∈ (onSegment s seg).2) :
    ∃ d r a, unstuff seg = some d ∧ parse d = .ok (.data s.rxSeq r a p) ∧ crcValid d := by
  -- the CANCEL-prefixed NAK that answers a bad segment is at most one write
  have nak : Ev.up p ∉ (match writeFrame s [resCancel] (.nak false false s.rxSeq) with | some w => [w] | none => []) := by
    unfold writeFrame; cases s.open_ <;> simp
  unfold onSegment at h
  cases hu : unstuff seg with
  | none => rw [hu] at h; exact absurd h nak
  | some d =>
    rw [hu] at h
    simp only at h
    cases hp : parse d with
    | error e => rw [hp] at h; exact absurd h nak
    | ok f =>
      rw [hp] at h
      cases f with
      | data n r a q =>
        obtain ⟨t, ht, h1, -⟩ := BV.Ash.onFrame_data s n r a q
        simp only [ht] at h
        obtain ⟨hq, hn⟩ : p = q ∧ n = t.rxSeq := by simpa using onData_evs t n r q _ h
        subst hq
        exact ⟨d, r, a, rfl, by rw [hn, h1] at hp; exact hp, C03.parse_ok_crcValid hp⟩
      | _ => simp [onFrame] at h

/-- arbitrary bytes never raise out of the receive callback while the transport is open
(in the model, the only `raised` outcome is a write on a closed transport) -/
theorem c02_total (s : Rx) (h : RxOk s) (seg : List UInt8) : Ev.raised ∉ (onSegment s seg).2 := by
  rw [onSegment_ref s h]
  unfold refSegment
  split
  · simp [specNak]
  · exact BV.Ash.onFrame_no_raised s h.1 _

/-! ### Source level

The statements below are about `BV.Src.Ash.AshProtocol.data_received`, the definition `harness/pytrans.py`
generates from bellows/ash.py on every run (statement by statement: the `while self._buffer:` loop with its
discarding branch, the generator over RESERVED_WITHOUT_ESCAPE, the FLAG / CANCEL / SUBSTITUTE / XON / XOFF branches,
the try/except around unstuffing and parsing, the NAK under `contextlib.suppress`, the truncation to
MAX_BUFFER_SIZE), not about the hand-written decoder: `BV.Proofs.Src.AshDec` proves the two compute the same
thing, so every model-level theorem of this file transfers. -/
section Source
open BV.Proofs.Src.AshRx BV.Proofs.Src.AshDec

/-- **source = model**: with the transport open, any sequence of reads handed to the translated `data_received`
returns normally every time; the remainder kept, the discarding flag, the receiver state (sequence numbers, pending
frames, failed flag) and the calls made on the environment (bytes written, payloads handed upward, reset
notifications), in order, are those of `feedChunks` -/
theorem c02_src_feed (s : S) (ho : isOpen s = true) (hw : WFs s) (hrx : s.rx_seq < 8) (flag0 : Bool)
    (chunks : List (List UInt8)) :
    ∃ s', srcFeed s chunks = (.ok (), s') ∧
      decOf s' (feedChunks (decOf s flag0) chunks).1.rx.ackTimeoutReset = (feedChunks (decOf s flag0) chunks).1 ∧
      srcEvs s s' = (feedChunks (decOf s flag0) chunks).2 :=
  let ⟨s', h1, h2⟩ := srcFeed_eq chunks s ⟨ho, hw, hrx⟩ flag0
  ⟨s', h1, h2.dec, h2.sim.evs⟩

/-- **totality at source level**: no byte stream, split in any way, makes `data_received` raise while the transport is open -/
theorem c02_src_total (s : S) (ho : isOpen s = true) (hw : WFs s) (hrx : s.rx_seq < 8) (chunks : List (List UInt8)) :
    (srcFeed s chunks).1 = .ok () := by
  obtain ⟨s', h1, _⟩ := c02_src_feed s ho hw hrx false chunks
  rw [h1]

/-- **stream equivalence at source level**: the environment calls of the translated source over any split of a
stream are the events of the specification's decoder run over the concatenated stream -/
theorem c02_src_stream_equiv (s : S) (ho : isOpen s = true) (hw : WFs s) (hrx : s.rx_seq < 8) (flag0 : Bool)
    (hs : DecOk (decOf s flag0)) (chunks : List (List UInt8)) (hb : AccBounded ⟨s.buffer, s.discarding⟩ chunks.flatten) :
    srcEvs s (srcFeed s chunks).2 = refDecode (absS s flag0) ⟨s.buffer, s.discarding⟩ chunks.flatten := by
  obtain ⟨s', h1, -, h3⟩ := c02_src_feed s ho hw hrx flag0 chunks
  rw [h1, h3]
  exact c02_stream_equiv (decOf s flag0) hs ⟨ho, hrx⟩ chunks hb

/-- **chunking independence at source level** -/
theorem c02_src_chunking_independent (s : S) (ho : isOpen s = true) (hw : WFs s) (hrx : s.rx_seq < 8)
    (hs : DecOk (decOf s false)) (c1 c2 : List (List UInt8)) (heq : c1.flatten = c2.flatten)
    (hb : AccBounded ⟨s.buffer, s.discarding⟩ c1.flatten) :
    srcEvs s (srcFeed s c1).2 = srcEvs s (srcFeed s c2).2 := by
  rw [c02_src_stream_equiv s ho hw hrx false hs c1 hb, c02_src_stream_equiv s ho hw hrx false hs c2 (heq ▸ hb), heq]

/-- **bounded memory at source level**: after every read the buffer kept is at most MAX_BUFFER_SIZE bytes -/
theorem c02_src_buffer_bounded (s : S) (ho : isOpen s = true) (hw : WFs s) (hrx : s.rx_seq < 8) (c : List UInt8) :
    (BV.Src.Ash.AshProtocol.data_received c s).2.buffer.length ≤ maxBufferSize := by
  obtain ⟨s', h1, h2, _⟩ := data_received_eq s c ⟨ho, hw, hrx⟩ false
  rw [h1]
  simp only
  rw [h2]
  exact c02_buffer_bounded _ c

/-- the hypotheses are met by a freshly connected protocol object -/
example : isOpen ({ transport := some false } : S) = true ∧ WFs ({ transport := some false } : S) ∧
    DecOk (decOf ({ transport := some false } : S) false) := by
  refine ⟨rfl, ⟨?_, ?_, ?_⟩, ⟨by intro b hb; simp [decOf] at hb, by simp [decOf]⟩⟩ <;> simp

end Source

end BV.Props.C02
