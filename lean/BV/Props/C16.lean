/-
C16 — Config write never shrinks a table, honours overrides, sets buffer count last.
Model: BV/Model/Config.lean (EZSP.write_config); tables: BV/Gen/Config.lean.
Overrides are what `config.items()` yields after schema validation: a dict, i.e. a list
without repeated keys (`hov`).
-/
import BV.Proofs.ConfigLemmas
import BV.Proofs.Distinct
namespace BV.Props.C16
open BV.Config BV.Gen.Config

theorem merged_spec (rows : List Row) (sup : String → Bool) {ov : Overrides} (hov : (ovNames ov).Nodup) :
    (names (merged rows sup ov)).Nodup ∧ ∀ x, x ∈ merged rows sup ov ↔
      (∃ id v, (x.name, id, some v) ∈ ov ∧ x = ⟨x.name, id, v, !sup x.name && minOf (defaultCfgs rows) x.name⟩) ∨
        (x ∈ defaultCfgs rows ∧ x.name ∉ ovNames ov) := by
  obtain ⟨hn, hx⟩ := applyOverrides_spec sup (d := defaultCfgs rows) (defaultCfgs_nodup rows) hov
  unfold merged
  simp only
  split
  · exact ⟨moveLast_nodup hn _, fun x => by rw [moveLast_mem hn]; exact hx x⟩
  · exact ⟨hn, hx⟩

theorem mem_writeConfigRows_set {rows : List Row} {ncp : Ncp} {sup : String → Bool} {ov : Overrides} {n : String}
    {i v : Nat} : Op.setCfg n i v ∈ writeConfigRows rows ncp sup ov ↔
      ∃ c ∈ merged rows sup ov, c.name = n ∧ c.id = i ∧ c.value = v ∧ skip ncp c = false := by
  rw [writeConfigRows, List.mem_append, mem_writeCfgs_set]
  exact or_iff_right mem_writeValues_no_setCfg

/-- Each setting is set at most once. -/
theorem c16_at_most_once (rows : List Row) (ncp : Ncp) (sup : String → Bool) {ov : Overrides}
    (hov : (ovNames ov).Nodup) : (setNames (writeConfigRows rows ncp sup ov)).Nodup := by
  unfold writeConfigRows
  rw [setNames_append, setNames_writeValues, List.nil_append]
  exact (setNames_writeCfgs_sublist ncp _).nodup (merged_spec rows sup hov).1

/-- **Never shrink.**  Take a grow-only default `c` (every capacity default is one, `c16_tables`) whose key the
user did not supply - whether the key is absent from the validated config or was filled in by the version's own
schema.  Whatever is written for that setting is strictly above the value the NCP reports; in particular nothing
is written when the NCP already reports at least the default. -/
theorem c16_never_shrink (rows : List Row) (ncp : Ncp) (sup : String → Bool) {ov : Overrides}
    (hov : (ovNames ov).Nodup)
    (c : Cfg) (hc : c ∈ defaultCfgs rows) (hmin : c.minimum = true) (hno : sup c.name = false)
    (cur : Nat) (hcur : ncp.cur c.id = some cur) :
    ∀ i v, Op.setCfg c.name i v ∈ writeConfigRows rows ncp sup ov → i = c.id → cur < v := by
  obtain ⟨hn, hx⟩ := merged_spec rows sup hov
  intro i v hmem hi
  obtain ⟨c', hc', hname, hid, hval, hskip⟩ := mem_writeConfigRows_set.mp hmem
  have hcur' : ncp.cur c'.id = some cur := by rw [hid, hi]; exact hcur
  rcases (hx c').mp hc' with ⟨id, w, hin, he⟩ | ⟨hdef, _⟩
  · have hm' : c'.minimum = true := by
      rw [he]
      simp only [hname, hno, Bool.not_false, Bool.true_and]
      rw [minOf_of_mem (defaultCfgs_nodup rows) hc]; exact hmin
    simp only [skip, hcur', hm', Bool.true_and, decide_eq_false_iff_not, Nat.not_le] at hskip
    omega
  · have : c' = c := same_name_eq (defaultCfgs_nodup rows) hdef hc hname
    subst this
    simp only [skip, hcur', hmin, Bool.true_and, decide_eq_false_iff_not, Nat.not_le] at hskip
    omega

/-- the corollary in the property's words: nothing is written for such a setting when the NCP already reports
at least the value the library would write -/
theorem c16_never_shrink_quiet (rows : List Row) (ncp : Ncp) (sup : String → Bool) {ov : Overrides}
    (hov : (ovNames ov).Nodup)
    (c : Cfg) (hc : c ∈ defaultCfgs rows) (hmin : c.minimum = true) (hno : sup c.name = false)
    (cur : Nat) (hcur : ncp.cur c.id = some cur) (v : Nat) (hge : cur ≥ v) :
    Op.setCfg c.name c.id v ∉ writeConfigRows rows ncp sup ov := by
  intro h
  have := c16_never_shrink rows ncp sup hov c hc hmin hno cur hcur c.id v h rfl
  omega

/-- … and it *is* written (with the default value) when the current value is smaller or unreadable. -/
theorem c16_grows_when_smaller (rows : List Row) (ncp : Ncp) (sup : String → Bool) {ov : Overrides}
    (hov : (ovNames ov).Nodup)
    (c : Cfg) (hc : c ∈ defaultCfgs rows) (hno : c.name ∉ ovNames ov)
    (hlt : ∀ cur, ncp.cur c.id = some cur → c.minimum = true → cur < c.value) :
    Op.setCfg c.name c.id c.value ∈ writeConfigRows rows ncp sup ov := by
  obtain ⟨hn, hx⟩ := merged_spec rows sup hov
  refine mem_writeConfigRows_set.mpr ⟨c, (hx c).mpr (Or.inr ⟨hc, hno⟩), rfl, rfl, rfl, ?_⟩
  unfold skip
  cases hcur : ncp.cur c.id with
  | none => rfl
  | some cur =>
    cases hm : c.minimum with
    | false => simp
    | true => have := hlt cur hcur hm; simp; omega

/-- A user-supplied value is written exactly as given (and nothing else for that setting),
whatever the NCP currently reports. -/
theorem c16_override_exact (rows : List Row) (ncp : Ncp) (sup : String → Bool) {ov : Overrides}
    (hov : (ovNames ov).Nodup)
    (n : String) (i v : Nat) (hin : (n, i, some v) ∈ ov) (hsup : sup n = true) :
    Op.setCfg n i v ∈ writeConfigRows rows ncp sup ov ∧
      ∀ i' v', Op.setCfg n i' v' ∈ writeConfigRows rows ncp sup ov → i' = i ∧ v' = v := by
  obtain ⟨hn, hx⟩ := merged_spec rows sup hov
  have hcd : (⟨n, i, v, false⟩ : Cfg) ∈ merged rows sup ov := (hx _).mpr (Or.inl ⟨i, v, hin, by simp [hsup]⟩)
  constructor
  · refine mem_writeConfigRows_set.mpr ⟨_, hcd, rfl, rfl, rfl, ?_⟩
    unfold skip; split <;> simp
  · intro i' v' hmem
    obtain ⟨c', hc', hname, hid, hval, _⟩ := mem_writeConfigRows_set.mp hmem
    have : c' = ⟨n, i, v, false⟩ := same_name_eq hn hc' hcd hname
    subst this
    exact ⟨hid.symm, hval.symm⟩

/-- Nothing is written for a disabled setting — whether or not it is among the defaults —
and the write cannot fail on it (`writeConfigRows` is total: it has no error outcome). -/
theorem c16_disabled_silent (rows : List Row) (ncp : Ncp) (sup : String → Bool) {ov : Overrides}
    (hov : (ovNames ov).Nodup) (n : String) (i : Nat) (hin : (n, i, none) ∈ ov) :
    ∀ i' v', Op.setCfg n i' v' ∉ writeConfigRows rows ncp sup ov := by
  obtain ⟨hn, hx⟩ := merged_spec rows sup hov
  intro i' v' hmem
  obtain ⟨c', hc', hname, _, _, _⟩ := mem_writeConfigRows_set.mp hmem
  have hnin : n ∈ ovNames ov := List.mem_map_of_mem hin
  rcases (hx c').mp hc' with ⟨id, w, hin', _⟩ | ⟨_, hnot⟩
  · rw [hname] at hin'
    -- two items under the key `n`, one disabled and one with a value, in a list without repeated keys
    have := List.eq_of_nodup_map Prod.fst (l := ov) hov hin hin' rfl
    simp at this
  · exact hnot (hname ▸ hnin)

/-- a version with defaults never fails, whatever the overrides -/
theorem c16_write_total (v : Nat) (rows : List Row) (hv : defaults v = some rows) (ncp : Ncp)
    (sup : String → Bool) (ov : Overrides) : writeConfig v ncp sup ov = .ok (writeConfigRows rows ncp sup ov) := by
  simp [writeConfig, hv]

def ncp0 : Ncp := ⟨fun _ => none, fun _ => true, fun _ => true⟩

/-- If the packet-buffer count is written, it is the last write of all — for every override
set, including settings outside the defaults. -/
theorem c16_buffer_last (rows : List Row) (ncp : Ncp) (sup : String → Bool) {ov : Overrides}
    (hov : (ovNames ov).Nodup)
    (i v : Nat) (hmem : Op.setCfg packetBufferCountName i v ∈ writeConfigRows rows ncp sup ov) :
    (writeConfigRows rows ncp sup ov).getLast? = some (Op.setCfg packetBufferCountName i v) := by
  obtain ⟨hn0, _⟩ := applyOverrides_spec sup (d := defaultCfgs rows) (ov := ov) (defaultCfgs_nodup rows) hov
  obtain ⟨c, hc, hname, hid, hval, hskip⟩ := mem_writeConfigRows_set.mp hmem
  -- `c` is an entry of the dict before the move, so the move puts it last
  have hcd : c ∈ applyOverrides sup (defaultCfgs rows) ov := by
    unfold merged at hc
    simp only at hc
    split at hc
    · exact (moveLast_mem hn0 _ _).mp hc
    · exact hc
  have hinit : merged rows sup ov = (applyOverrides sup (defaultCfgs rows) ov).popD packetBufferCountName ++ [c] := by
    have hhas : (applyOverrides sup (defaultCfgs rows) ov).has packetBufferCountName = true :=
      List.any_eq_true.mpr ⟨c, hcd, by simpa using hname⟩
    unfold merged
    simp only
    rw [if_pos hhas, moveLast_eq hn0 _ c ((get?_eq_some hn0 _ c).mpr ⟨hcd, hname⟩)]
  unfold writeConfigRows
  rw [hinit, writeCfgs_append]
  simp only [writeCfgs, hskip, Bool.false_eq_true, if_false, ite_self]
  simp [hname, hid, hval]

def lastSet : List Op → Option String
  | ops => (setNames ops).getLast?

/-- A rejected setting does not stop the remaining ones: the sequence of reads and writes
is the same whatever the NCP answers to each set. -/
theorem c16_reject_continues (rows : List Row) (cur : Nat → Option Nat) (a1 a2 v1 v2 : Nat → Bool)
    (sup : String → Bool) (ov : Overrides) :
    writeConfigRows rows ⟨cur, a1, v1⟩ sup ov = writeConfigRows rows ⟨cur, a2, v2⟩ sup ov := by
  unfold writeConfigRows
  rw [writeValues_accept_indep cur a1 a2 v1 v2, writeCfgs_accept_indep cur a1 a2 v1 v2]

/-- capacity settings of the property (table sizes, child and network counts), by name -/
def capacityNames : List String :=
  ["CONFIG_SOURCE_ROUTE_TABLE_SIZE", "CONFIG_MULTICAST_TABLE_SIZE", "CONFIG_ADDRESS_TABLE_SIZE",
   "CONFIG_KEY_TABLE_SIZE", "CONFIG_TRUST_CENTER_ADDRESS_CACHE_SIZE", "CONFIG_MAX_END_DEVICE_CHILDREN",
   "CONFIG_SUPPORTED_NETWORKS", "CONFIG_NEIGHBOR_TABLE_SIZE", "CONFIG_BINDING_TABLE_SIZE",
   "CONFIG_ROUTE_TABLE_SIZE", "CONFIG_DISCOVERY_TABLE_SIZE", "CONFIG_BROADCAST_TABLE_SIZE"]

/-- Table facts, for every generated version: default list, schema keys and the list of schema-filled settings
exist; the packet-buffer count is the last configuration default (in the rows and in the dict built from them);
default names are distinct (so the dict has one entry per row); every capacity default, and every capacity
setting the schema fills in, is grow-only; the value defaults have distinct ids; and over the schema keys and
default rows together, name ↦ id is a function and injective (so "one write per name" is "one write per
setting ID"). -/
def tableOk (v : Nat) : Bool :=
  match defaults v, schemaKeys v with
  | some rows, some keys =>
    let cfg := rows.filter (·.kind == 0)
    let tbl := keys ++ cfg.map (fun r => (r.name, r.id))
    (cfg.map (·.name)).getLast? == some packetBufferCountName
      && (names (defaultCfgs rows)).getLast? == some packetBufferCountName
      && (cfg.map (·.name)).Nodup
      && cfg.all (fun r => !capacityNames.contains r.name || r.minimum)   -- every capacity default is grow-only
      -- a capacity setting the schema fills in by itself replaces a grow-only default (and so stays grow-only)
      && ((schemaFilled.lookup v).getD []).all (fun (n, i, _) => !capacityNames.contains n ||
            cfg.any (fun r => r.name == n && r.id == i && r.minimum))
      && (schemaFilled.lookup v).isSome
      && ((rows.filter (·.kind == 1)).map (·.id)).Nodup
      && tbl.all (fun a => tbl.all (fun b => (a.1 == b.1) == (a.2 == b.2)))
  | _, _ => false

/-- over a list of (name, id) pairs, name ↦ id is a function and injective: the last conjunct of `tableOk` -/
def pairsOk (t : List (String × Nat)) : Bool := t.all fun a => t.all fun b => (a.1 == b.1) == (a.2 == b.2)

/-- why `pairsOk (keys ++ extra)` holds in every generated table, checked in one pass: the schema keys have distinct
names and distinct ids, and every default is one of them -/
def keysOk (keys extra : List (String × Nat)) : Bool :=
  distinct ((keys.map (·.1)).map strKey) && distinct (keys.map (·.2)) &&
    extra.all fun p => keys.any fun q => q.2 == p.2 && q.1 == p.1

theorem pairsOk_of_keysOk {keys extra : List (String × Nat)} (h : keysOk keys extra = true) :
    pairsOk (keys ++ extra) = true := by
  simp only [keysOk, Bool.and_eq_true, List.all_eq_true, List.any_eq_true, beq_iff_eq] at h
  obtain ⟨⟨h1, h2⟩, h3⟩ := h
  have hk : ∀ p ∈ keys ++ extra, p ∈ keys := fun p hp => (List.mem_append.mp hp).elim id fun hp => by
    obtain ⟨q, hq, e2, e1⟩ := h3 p hp
    rwa [← Prod.ext e1 e2]
  simp only [pairsOk, List.all_eq_true]
  intro a ha b hb
  by_cases e : a = b
  · simp [e]
  · rw [beq_false_of_ne fun h => e (List.eq_of_nodup_map (·.1) (nodup_of_distinct_map strKey h1) (hk a ha) (hk b hb) h),
      beq_false_of_ne fun h => e (List.eq_of_nodup_map (·.2) (nodup_of_distinct h2) (hk a ha) (hk b hb) h)]
    rfl

/-- every generated version (`versions`) passes `tableOk`: in particular every capacity default of that version's
`config.py` is grow-only and `CONFIG_PACKET_BUFFER_COUNT` is its last configuration default -/
theorem c16_tables : versions.all tableOk = true := by
  -- The kernel evaluates `a || b` lazily.  Rewriting the quadratic conjunct of `tableOk` to `keysOk .. || <itself>`
  -- (true of every table, so usable under the binders of `tableOk`) makes it evaluate `keysOk` instead.
  have pairs_eq (keys extra : List (String × Nat)) :
      ((keys ++ extra).all fun a => (keys ++ extra).all fun b => (a.1 == b.1) == (a.2 == b.2)) =
        (keysOk keys extra || pairsOk (keys ++ extra)) := by
    cases h : keysOk keys extra
    · rfl
    · exact pairsOk_of_keysOk h
  rw [List.all_eq_true]
  intro v hv
  unfold tableOk
  simp only [pairs_eq]
  revert v hv
  decide +kernel

/-- non-vacuity: a write with an in-defaults override and a disabled default succeeds, writes
the override verbatim, nothing for the disabled key, and the buffer count last -/
example :
    (match writeConfig 8 ⟨fun i => if i = 6 then some 64 else some 0, fun _ => true, fun _ => false⟩
        (fun _ => true) [("CONFIG_KEY_TABLE_SIZE", 30, some 2), ("CONFIG_STACK_PROFILE", 12, none)] with
     | .ok ops => ops.contains (.setCfg "CONFIG_KEY_TABLE_SIZE" 30 2)
                  && !(setNames ops).contains "CONFIG_STACK_PROFILE"
                  && !(setNames ops).contains "CONFIG_MULTICAST_TABLE_SIZE"
                  && lastSet ops == some packetBufferCountName
     | .error _ => false) = true := by decide +kernel

/-- non-vacuity of the schema-filled case (the defect repaired in 0ec9f72): EZSPv7's schema fills in
CONFIG_KEY_TABLE_SIZE = 12; with an NCP reporting 33 nothing is written for it, with an NCP reporting 5 it grows to 12;
a user who supplies 12 gets 12 written over 33 -/
example :
    (match writeConfig 7 ⟨fun i => if i = 30 then some 33 else some 0, fun _ => true, fun _ => true⟩
        (fun n => n != "CONFIG_KEY_TABLE_SIZE") [("CONFIG_KEY_TABLE_SIZE", 30, some 12)],
      writeConfig 7 ⟨fun i => if i = 30 then some 5 else some 0, fun _ => true, fun _ => true⟩
        (fun n => n != "CONFIG_KEY_TABLE_SIZE") [("CONFIG_KEY_TABLE_SIZE", 30, some 12)],
      writeConfig 7 ⟨fun i => if i = 30 then some 33 else some 0, fun _ => true, fun _ => true⟩
        (fun _ => true) [("CONFIG_KEY_TABLE_SIZE", 30, some 12)] with
     | .ok a, .ok b, .ok c => !(setNames a).contains "CONFIG_KEY_TABLE_SIZE" && b.contains (.setCfg "CONFIG_KEY_TABLE_SIZE" 30 12)
                              && c.contains (.setCfg "CONFIG_KEY_TABLE_SIZE" 30 12)
     | _, _, _ => false) = true := by decide +kernel

end BV.Props.C16
