/-
C09 — bring-up negotiates the NCP's protocol version and frames everything accordingly.
Model: BV.Neg (startup_reset / reset / version / _switch_protocol_version / the write_config lookup)
over the generated `_BY_VERSION` table and the generated default configurations.
-/
import BV.Model.Ezsp.Negotiate
namespace BV.Props.C09
open BV.Neg BV.Codec

theorem latest_eq : latest = 14 := by decide +kernel

theorem lookup_byVersion (v : Nat) :
    BV.Gen.Commands.byVersion.lookup v = if 4 ≤ v ∧ v ≤ 14 then some v else none := by
  by_cases hv : v ≤ 14
  · have : ∀ v ≤ 14, BV.Gen.Commands.byVersion.lookup v = if 4 ≤ v ∧ v ≤ 14 then some v else none := by
      decide +kernel
    exact this v hv
  · -- no key of the table is above 14
    have hk : ∀ p ∈ BV.Gen.Commands.byVersion, p.1 ≤ 14 := by decide +kernel
    rw [if_neg fun h => hv h.2, List.lookup_eq_none_iff]
    exact fun p hp => by simpa using fun (e : v = p.1) => hv (e ▸ hk p hp)

theorem switch_handler (s : St) (v : Nat) (h : 4 ≤ v) : (switch s v).handlerVersion = min v 14 ∧
    (switch s v).ezspVersion = v ∧ (switch s v).seq = 0 := by
  refine ⟨?_, rfl, rfl⟩
  simp only [switch, lookup_byVersion, latest_eq]
  by_cases hv : v ≤ 14
  · simp [h, hv]
  · simp [h, hv]; omega

/-- `EZSP.reset()` leaves the v4 handler with a fresh sequence, whatever the state was -/
theorem afterReset_eq (s : St) : afterReset s = ⟨4, 4, true, 0⟩ := by
  simp [afterReset, switch, lookup_byVersion]

theorem q1_legacy : versionRequest ⟨4, 4, true, 0⟩ 4 = [0x00, 0x00, 0x00, 0x04] := by decide +kernel

theorem version_afterReset_head (s : St) (n : Nat) :
    (version (afterReset s) n).2.head? = some [0x00, 0x00, 0x00, 0x04] := by
  rw [afterReset_eq]
  unfold version
  simp only [q1_legacy]
  split <;> rfl

/-- the first version query of every bring-up is in the legacy format: `[seq, 00, 00, 04]` -/
theorem c09_first_query (n : Nat) : (startup n).2.head? = some [0x00, 0x00, 0x00, 0x04] :=
  version_afterReset_head {} n

/-- **negotiation**, for every NCP version `n ≥ 4`: the reported version is adopted; the handler is the
version's own for supported versions and the newest known one for newer ones; a second query, in the
layout of the adopted handler and carrying `n`, is sent iff `n ≠ 4` -/
theorem c09_negotiated (n : Nat) (hn : 4 ≤ n) :
    (startup n).1.ezspVersion = n ∧ (startup n).1.handlerVersion = min n 14 ∧
    (n = 4 → (startup n).2 = [[0x00, 0x00, 0x00, 0x04]]) ∧
    (n ≠ 4 → (startup n).2 = [[0x00, 0x00, 0x00, 0x04],
                               txHeader (hdrOf (min n 14)) 0 0 ++ [UInt8.ofNat n]]) := by
  unfold startup
  rw [afterReset_eq]
  unfold version
  simp only [q1_legacy]
  by_cases h : n = 4
  · subst h
    simp
  · -- the state `switch` is applied to is whatever `version` has made of the reset state: any will do
    have sw := fun s => switch_handler s n hn
    simp only [ne_eq, h, not_false_eq_true, ↓reduceIte, versionRequest, sw]
    exact ⟨trivial, trivial, False.elim, fun _ => trivial⟩

/-- capping at the newest handler version (14) does not change the layout: the thresholds are 5 and 8 -/
theorem hdrOf_min (n : Nat) : hdrOf (min n 14) = hdrOf n := by
  have h5 : min n 14 < 5 ↔ n < 5 := by omega
  have h8 : min n 14 < 8 ↔ n < 8 := by omega
  simp only [hdrOf, h5, h8]

/-- from then on every frame uses the adopted handler's layout: v4 3-byte header for version 4, the
legacy 5-byte header for 5..7, the 16-bit-ID header from 8 on (including newer, unknown versions) -/
theorem c09_layout (n : Nat) (hn : 4 ≤ n) :
    hdrOf (startup n).1.handlerVersion = (if n < 5 then .v4 else if n < 8 then .v5 else .v8) := by
  rw [(c09_negotiated n hn).2.1, hdrOf_min]
  rfl

/-- holds in every state: the fallback of `write_config`'s lookup, the newest handler's list, exists -/
theorem configDefaults_isSome (s : St) : (configDefaults s).isSome = true := by
  unfold configDefaults
  split
  · rfl
  · decide +kernel

/-- **the default configuration is defined** after negotiation with any NCP version ≥ 4 -/
theorem c09_config_defined (n : Nat) (hn : 4 ≤ n) : (configDefaults (startup n).1).isSome = true :=
  configDefaults_isSome _

/-- **fallback**: after every later reset framing is the legacy one until negotiation is repeated, and
repeating it yields the same result -/
theorem c09_fallback (s : St) (n : Nat) (hn : 4 ≤ n) :
    (afterReset s).handlerVersion = 4 ∧ (afterReset s).ezspVersion = 4 ∧ hdrOf (afterReset s).handlerVersion = .v4 ∧
    (version (afterReset s) n).2.head? = some [0x00, 0x00, 0x00, 0x04] := by
  refine ⟨?_, ?_, ?_, version_afterReset_head s n⟩ <;> rw [afterReset_eq] <;> rfl

example : (startup 15).1.handlerVersion = 14 ∧ (startup 15).1.ezspVersion = 15 := by decide +kernel

end BV.Props.C09
