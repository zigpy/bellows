/-
C20 — the cross-thread proxy runs calls on the owner's loop and relays results.
Model: BV.Proxy.dispatch (the decision logic of ThreadsafeProxy.__getattr__ / func_wrapper).
-/
import BV.Model.Thread.Proxy
namespace BV.Props.C20
open BV.Proxy

/-- the whole decision table -/
theorem c20_table (c : Ctx) :
    dispatch .nonCallable c = .refuse ∧
    (c.callerIsOwnerLoop = true → dispatch .plain c = .runHere ∧ dispatch .coroutine c = .runHere) ∧
    (c.callerIsOwnerLoop = false → c.ownerClosed = true → dispatch .plain c = .drop ∧ dispatch .coroutine c = .drop) ∧
    (c.callerIsOwnerLoop = false → c.ownerClosed = false →
        dispatch .coroutine c = .onOwnerAwait ∧ dispatch .plain c = .onOwnerQueue) := by
  obtain ⟨a, b⟩ := c
  cases a <;> cases b <;> simp [dispatch]

/-- a call from another loop is never executed on the caller's loop, whatever the attribute -/
theorem c20_never_on_caller (k : AttrKind) (c : Ctx) (h : c.callerIsOwnerLoop = false) :
    dispatch k c ≠ .runHere := by
  cases k with
  | nonCallable => simp [dispatch]
  | plain | coroutine =>
    -- off the owner's loop: dropped if that loop is closed, else handed over to it
    simp only [dispatch, h, Bool.false_eq_true, if_false]
    split <;> simp

/-- once the owner's loop is closed, a call from elsewhere neither executes nor blocks -/
theorem c20_closed_drops (k : AttrKind) (c : Ctx) (hk : k ≠ .nonCallable) (h1 : c.callerIsOwnerLoop = false)
    (h2 : c.ownerClosed = true) : dispatch k c = .drop := by
  cases k <;> simp_all [dispatch]

/-- queued plain calls run on the owner's loop in the order they were made -/
theorem c20_fifo (q : List Nat) (calls : List Nat) : calls.foldl enqueue q = q ++ calls := by
  induction calls generalizing q with
  | nil => simp
  | cons c cs ih => simp [List.foldl_cons, enqueue, ih, List.append_assoc]

/-- a queued plain method must return nothing -/
theorem c20_plain_returns_nothing : queuedBodyOk none = true ∧ ∀ v, queuedBodyOk (some v) = false := by
  simp [queuedBodyOk]

end BV.Props.C20
