/-
C19 — Watchdog requests a restart only after the tolerated run of consecutive failures.
-/
import BV.Model.Watchdog
import BV.Proofs.Src.Wd
import BV.Proofs.WatchdogLemmas
namespace BV.Props.C19
open BV.Watchdog BV.Gen.App
open BV.Proofs.Src.Wd (consts)

/-- number of consecutive failures at the end of a word (specification side) -/
def trailingFailures : List Outcome → Nat
  | [] => 0
  | os => (os.reverse.takeWhile Outcome.failed).length

theorem trailing_snoc (os : List Outcome) (o : Outcome) :
    trailingFailures (os ++ [o]) = if o.failed then trailingFailures os + 1 else 0 := by
  have e : trailingFailures (os ++ [o]) = ((o :: os.reverse).takeWhile Outcome.failed).length := by
    cases os <;> simp [trailingFailures]
  have e' : trailingFailures os = (os.reverse.takeWhile Outcome.failed).length := by
    cases os <;> simp [trailingFailures]
  rw [e, e', List.takeWhile_cons]
  cases o.failed <;> simp

theorem run_getElem? (v : Nat) (w : Wd) (os : List Outcome) (k : Nat) :
    (run v w os)[k]? = os[k]?.map fun o => (feed v (final v w (os.take k)) o).2 := by
  induction os generalizing w k with
  | nil => rfl
  | cons o os ih => cases k with
    | zero => rfl
    | succ k => exact ih _ k

theorem failures_eq (v : Nat) (os : List Outcome) :
    (final v {} os).failures = trailingFailures os := by
  suffices h : ∀ (pre : List Outcome) (w : Wd), w.failures = trailingFailures pre →
      (final v w os).failures = trailingFailures (pre ++ os) by
    simpa using h [] {} rfl
  induction os with
  | nil => intro pre w h; simpa [final] using h
  | cons o os ih =>
    intro pre w h
    have := ih (pre ++ [o]) (feed v w o).1 (by rw [trailing_snoc, feed_eq, h])
    simpa [final, List.append_assoc] using this

/-- The feed after the word `pre` raises exactly when its outcome is a failure and it is
preceded by at least MAX_WATCHDOG_FAILURES consecutive failures (i.e. the run of failures,
this one included, exceeds the tolerated maximum). Any word, any protocol version. -/
theorem c19_raise_iff (v : Nat) (pre : List Outcome) (o : Outcome) :
    (feed v (final v {} pre) o).2.1 = true ↔
      (o.failed = true ∧ trailingFailures pre ≥ maxWatchdogFailures) := by
  rw [feed_eq, failures_eq, Bool.and_eq_true, decide_eq_true_iff, consts.2]
  exact and_congr_right fun _ => Nat.lt_succ_iff

/-- same statement on the whole run: the k-th answer of `run` is the raise decision above -/
theorem c19_run_spec (v : Nat) (os : List Outcome) (k : Nat) (hk : k < os.length) :
    ((run v {} os)[k]?).map (·.1) =
      some (decide (os[k].failed = true ∧ trailingFailures (os.take k) ≥ maxWatchdogFailures)) := by
  rw [run_getElem?, List.getElem?_eq_getElem hk, Option.map_some, Option.map_some, Option.some.injEq]
  exact Bool.eq_iff_iff.mpr ((c19_raise_iff v _ _).trans decide_eq_true_iff.symm)

/-- any successful feed clears the count -/
theorem c19_success_clears (v : Nat) (w : Wd) : (feed v w .ok).1.failures = 0 := by
  simp [feed, Outcome.failed]

/-- keep-alive choice: a no-op command on protocol version 4 -/
theorem c19_keepalive_v4 (w : Wd) (o : Outcome) : (feed 4 w o).2.2 = .nop := by
  rw [feed_eq]; rfl

/-- … and a counter read otherwise; the read-and-clear variant exactly when the feed count
(this feed included) is a multiple of the configured period -/
theorem c19_keepalive_later (v : Nat) (hv : v ≠ 4) (w : Wd) (o : Outcome) :
    (feed v w o).2.2 =
      if (w.feedCounter + 1) % countersClearPeriods = 0 then .readAndClearCounters else .readCounters := by
  rw [feed_eq, consts.1]
  by_cases h : (w.feedCounter + 1) % 180 = 0
  · simp [hv, h]
  · simp [hv, h, Nat.pos_of_ne_zero h]

/-- the feed count advances by one per feed on versions other than 4 (so the period is in feeds) -/
theorem c19_counter_advances (v : Nat) (hv : v ≠ 4) (w : Wd) (o : Outcome) :
    (feed v w o).1.feedCounter = w.feedCounter + 1 := by
  rw [feed_eq]; exact if_neg hv

/-- non-vacuity (for the generated constant): some word raises, and a success in between prevents it -/
example : ((run 8 {} (List.replicate (maxWatchdogFailures + 1) .timeout)).map (·.1)).getLast? = some true := by decide
example : ((run 8 {} (List.replicate maxWatchdogFailures .timeout ++ [.ok, .timeout])).map (·.1)).getLast? = some false := by decide

/-! ### the same statements over the coroutine generated from `ControllerApplication._watchdog_feed` (BV/Gen/SrcWd.lean)

The feed is translated from the syntax tree on every run (awaited keep-alive calls are calls on a scripted command layer; the
statements that only touch zigpy's counter objects are pinned by their text); `BV.Proofs.Src.Wd` proves one feed to be one step
`feed` of the model above.  A feed has *two* awaited calls on versions other than 4 (the counter read and the free-buffer read): a
counted exception out of either makes it a failed feed. -/
section Src
open BV.Src.Wd BV.Proofs.Src.Wd

/-- a feed whose calls are all answered: the model's successful step (the count is cleared, nothing is raised) -/
theorem c19_src_feed_ok (a : WdApp) (rest : List WResp) :
    (a.version = 4 → a.script = .ok :: rest → FeedRel a (watchdog_feed a) .ok "") ∧
    (∀ b, a.version ≠ 4 → a.script = .ok :: .buffers b :: rest → FeedRel a (watchdog_feed a) .ok "") :=
  ⟨fun hv hs => (feed_v4_ok a rest hv hs).1, fun b hv hs => (feed_ok a rest b hv hs).1⟩

/-- a feed in which a call raises a counted class (timeout, EZSP error or a subclass): the model's failed step, whichever of the
feed's calls it was -/
theorem c19_src_feed_fail (a : WdApp) (rest : List WResp) (c : String) (hc : c ∈ counted) :
    (a.version = 4 → a.script = .raises c :: rest → FeedRel a (watchdog_feed a) .timeout c) ∧
    (a.version ≠ 4 → a.script = .raises c :: rest → FeedRel a (watchdog_feed a) .timeout c) ∧
    (a.version ≠ 4 → a.script = .ok :: .raises c :: rest → FeedRel a (watchdog_feed a) .timeout c) :=
  ⟨fun hv hs => (feed_v4_fail a rest c hc hv hs).1, fun hv hs => (feed_fail_first a rest c hc hv hs).1,
   fun hv hs => (feed_fail_second a rest c hc hv hs).1⟩

/-- **exactly when** (source level): a failed feed raises iff the count it arrives with is already at the tolerated maximum; a
successful one never raises and clears the count -/
theorem c19_src_raise_iff (a : WdApp) (rest : List WResp) (c : String) (hc : c ∈ counted) (hv : a.version ≠ 4)
    (hs : a.script = .raises c :: rest) :
    ((watchdog_feed a).1 = .error (.raised c) ↔ a.failures ≥ maxWatchdogFailures) ∧
    ((watchdog_feed a).1 = .ok () ↔ a.failures < maxWatchdogFailures) ∧
    (watchdog_feed a).2.failures = a.failures + 1 := by
  obtain ⟨h1, h2, -, -⟩ := (feed_fail_first a rest c hc hv hs).1
  have hr : (feed a.version (absW a) .timeout).2.1 = decide (a.failures + 1 > maxWatchdogFailures) := by
    rw [feed_eq, consts.2]; rfl
  -- the test `failures + 1 > max` after counting this failure is `failures ≥ max` before
  have hgt : decide (a.failures + 1 > maxWatchdogFailures) = decide (a.failures ≥ maxWatchdogFailures) :=
    decide_eq_decide.mpr (by omega)
  refine ⟨?_, ?_, (congrArg Wd.failures h1).trans (by rw [feed_eq]; rfl)⟩ <;> rw [h2, hr, hgt]
  · by_cases h : a.failures ≥ maxWatchdogFailures <;> simp [h]
  · by_cases h : a.failures ≥ maxWatchdogFailures <;> simp [h, Nat.not_lt.mpr, Nat.lt_of_not_le]

/-- non-vacuity: four failures tolerated, the fifth raises; the periodic read-and-clear at the period boundary -/
example : (watchdog_feed { version := 8, failures := 4, script := [.raises "TimeoutError"] }).1 = .error (.raised "TimeoutError") := by
  decide +kernel
example : (watchdog_feed { version := 8, failures := 3, script := [.raises "EzspError"] }).1 = .ok () := by decide +kernel
example : (watchdog_feed { version := 8, feed_counter := 179, script := [.ok, .buffers (some 7)] }).2.trace =
    [.readAndClearCounters, .countersUpdate, .countersReset, .getFreeBuffers, .buffersSet (some 7)] := by decide +kernel

end Src

end BV.Props.C19
