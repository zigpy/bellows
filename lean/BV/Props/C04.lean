/-
C04 — the host receiver never hands a frame up twice or out of order, whatever arrives.
Model: BV.Ash.onFrame / runFrames (frame_received and its handlers).
-/
import BV.Proofs.Ash.RxLemmas
import BV.Proofs.Src.AshRx
namespace BV.Props.C04
open BV.Ash

def ups (es : List Ev) : List (List UInt8) := es.filterMap fun | .up p => some p | _ => none
def resets (es : List Ev) : List Nat := es.filterMap fun | .reset c => some c | _ => none
def writes (es : List Ev) : List (List UInt8) := es.filterMap fun | .write b => some b | _ => none

/-- a DATA frame's payload goes up iff its frame number is the expected one, and then exactly once -/
theorem c04_accept_iff (s : Rx) (h : s.open_ = true) (n : Nat) (r : Bool) (a : Nat) (p : List UInt8) :
    ups (onFrame s (.data n r a p)).2 = if n = s.rxSeq then [p] else [] := by
  obtain ⟨t, ht, h1, h3, -⟩ := onFrame_data s n r a p
  rw [ht, onData_open t (by rw [h3]; exact h), h1]
  by_cases hn : n = s.rxSeq
  · simp [hn, ups]
  · cases r <;> simp [hn, ups]

/-- every DATA frame is answered with exactly one frame carrying the *new* expected number:
an ACK iff the frame was accepted or flagged as a retransmission, otherwise a NAK; for an accepted
frame the ACK is written before the payload is handed up; the expected number advances by one
(mod 8) exactly on acceptance -/
theorem c04_one_reply (s : Rx) (h : s.open_ = true) (n : Nat) (r : Bool) (a : Nat) (p : List UInt8) :
    let o := onFrame s (.data n r a p)
    o.1.rxSeq = (if n = s.rxSeq then (n + 1) % 8 else s.rxSeq) ∧
    writes o.2 = [wire [] (if n = s.rxSeq ∨ r = true then .ack false false o.1.rxSeq
                           else .nak false false o.1.rxSeq)] ∧
    (n = s.rxSeq → o.2 = [.write (wire [] (.ack false false o.1.rxSeq)), .up p]) ∧
    resets o.2 = [] := by
  obtain ⟨t, ht, h1, h3, -⟩ := onFrame_data s n r a p
  simp only
  rw [ht, onData_open t (by rw [h3]; exact h), h1]
  by_cases hn : n = s.rxSeq
  · simp [hn, writes, resets]
  · cases r <;> simp [hn, writes, resets, h1]

/-- ACK, NAK and RST frames cause no upward delivery and no write; RSTACK restarts both counters at
zero, restores the ACK timeout and reports its code upward exactly once; ERROR reports its code
upward exactly once (and marks the link failed) -/
theorem c04_control_frames (s : Rx) :
    (∀ x y a, (onFrame s (.ack x y a)).2 = [] ∧ (onFrame s (.ack x y a)).1.rxSeq = s.rxSeq) ∧
    (∀ x y a, (onFrame s (.nak x y a)).2 = [] ∧ (onFrame s (.nak x y a)).1.rxSeq = s.rxSeq) ∧
    ((onFrame s .rst).2 = [] ∧ (onFrame s .rst).1.rxSeq = s.rxSeq) ∧
    (∀ v c, (onFrame s (.rstack v c)).2 = [.reset c.toNat] ∧ (onFrame s (.rstack v c)).1.rxSeq = 0 ∧
        (onFrame s (.rstack v c)).1.txSeq = 0 ∧ (onFrame s (.rstack v c)).1.failed = false ∧
        (onFrame s (.rstack v c)).1.ackTimeoutReset = true) ∧
    (∀ v c, (onFrame s (.error v c)).2 = [.reset c.toNat] ∧ (onFrame s (.error v c)).1.rxSeq = s.rxSeq ∧
        (onFrame s (.error v c)).1.failed = true) := by
  refine ⟨?_, ?_, ?_, ?_, ?_⟩
  · intro x y a; simp [onFrame, (handleAck_fields _ a).1]
  · intro x y a; simp [onFrame, cancelPending, (handleAck_fields _ a).1]
  · simp [onFrame]
  · intro v c; simp [onFrame]
  · intro v c; simp [onFrame, cancelPending]

/-- the specification of the receiver: expected number and the payloads accepted so far -/
def specStep (st : Nat × List (List UInt8)) : Frame → Nat × List (List UInt8)
  | .data n _ _ p => if n = st.1 then ((st.1 + 1) % 8, st.2 ++ [p]) else st
  | .rstack _ _ => (0, st.2)
  | _ => st

theorem onFrame_spec (s : Rx) (h : s.open_ = true) (f : Frame) (acc : List (List UInt8)) :
    ((onFrame s f).1.rxSeq, acc ++ ups (onFrame s f).2) = specStep (s.rxSeq, acc) f := by
  obtain ⟨hack, hnak, hrst, hrstack, herr⟩ := c04_control_frames s
  cases f with
  | data n r a p =>
    have h1 := (c04_one_reply s h n r a p).1
    have h2 := c04_accept_iff s h n r a p
    simp only [specStep]
    rw [h1, h2]
    by_cases hn : n = s.rxSeq <;> simp [hn]
  | ack x y a => simp [specStep, hack x y a, ups]
  | nak x y a => simp [specStep, hnak x y a, ups]
  | rst => simp [specStep, hrst, ups]
  | rstack v c => simp [specStep, hrstack v c, ups]
  | error v c => simp [specStep, herr v c, ups]

/-- **any frame sequence**: what is handed up is exactly the payloads of the frames that were in
sequence when they arrived, in arrival order, each once; the expected number is the abstract
acceptor's (accepted frames since the last RSTACK, mod 8) -/
theorem c04_sequence (s : Rx) (h : s.open_ = true) (fs : List Frame) (acc : List (List UInt8)) :
    ((runFrames s fs).1.rxSeq, acc ++ ups (runFrames s fs).2) = fs.foldl specStep (s.rxSeq, acc) := by
  induction fs generalizing s acc with
  | nil => simp [runFrames, ups]
  | cons f fs ih =>
    simp only [runFrames, List.foldl_cons]
    rw [← onFrame_spec s h f acc, ← ih _ (by rw [onFrame_open]; exact h)]
    simp [ups, List.filterMap_append]

/-- number of DATA frames accepted by the abstract acceptor since the last RSTACK -/
def acceptedSince : Nat → List Frame → Nat
  | rx, [] => rx
  | rx, .data n _ _ _ :: fs => if n = rx % 8 then acceptedSince (rx + 1) fs else acceptedSince rx fs
  | _, .rstack _ _ :: fs => acceptedSince 0 fs
  | rx, _ :: fs => acceptedSince rx fs

/-- the expected number is the count of accepted frames modulo 8 -/
theorem c04_rx_is_count_mod_8 (fs : List Frame) (k : Nat) (acc : List (List UInt8)) :
    (fs.foldl specStep (k % 8, acc)).1 = acceptedSince k fs % 8 := by
  induction fs generalizing k acc with
  | nil => simp [acceptedSince]
  | cons f fs ih =>
    cases f with
    | data n r a p =>
      simp only [List.foldl_cons, specStep, acceptedSince]
      by_cases hn : n = k % 8
      · simp only [hn, ↓reduceIte]
        have : (k % 8 + 1) % 8 = (k + 1) % 8 := by omega
        rw [this]; exact ih (k + 1) _
      · simp only [hn, ↓reduceIte]; exact ih k _
    | rstack v c => exact ih 0 _
    | ack _ _ _ | nak _ _ _ | rst | error _ _ => exact ih k _

example : ups (runFrames {} [.data 0 false 0 [1], .data 0 true 0 [1], .data 2 false 0 [3], .data 1 false 0 [2]]).2
    = [[1], [2]] := by decide +kernel


/-! ## the same statements over `frame_received` as generated from the source text (BV/Gen/SrcAsh.lean) -/

section Source
open BV.Proofs.Src.AshRx BV.Proofs.Src.Ash

/-- the source-level `frame_received` run over a sequence of frames (an exception does not stop the sequence: the
next frame is the next call) -/
def srcRun (s : S) : List Frame → S
  | [] => s
  | f :: fs => srcRun (BV.Src.Ash.AshProtocol.frame_received (ofM f) s).2 fs

/-- **`frame_received` of the source is the model's step** (restated from BV.Proofs.Src.AshRx) -/
theorem c04_src_frame_received (s : S) (hw : WFs s) (hrx : s.rx_seq < 8) (f : Frame) (flag : Bool) :
    let res := BV.Src.Ash.AshProtocol.frame_received (ofM f) s
    let m := onFrame (absS s flag) f
    absS res.2 m.1.ackTimeoutReset = m.1 ∧ evsOf s res.2 res.1 = m.2 ∧ WFs res.2 ∧ res.2.rx_seq < 8 ∧
      s.trace <+: res.2.trace ∧ res.2.buffer = s.buffer ∧ res.2.discarding = s.discarding := frame_received_eq s hw hrx f flag

/-- source level: a DATA frame's payload is handed up iff its number is the expected one, then exactly once -/
theorem c04_src_accept_iff (s : S) (hw : WFs s) (hrx : s.rx_seq < 8) (ho : isOpen s = true)
    (n : Nat) (r : Bool) (a : Nat) (p : List UInt8) :
    ups (srcEvs s (BV.Src.Ash.AshProtocol.frame_received (ofM (.data n r a p)) s).2) =
      if n = s.rx_seq then [p] else [] := by
  obtain ⟨s', h1, h2, -, -⟩ := frame_received_open s ⟨ho, hw, hrx⟩ (.data n r a p) false
  rw [h1, h2.evs]
  exact c04_accept_iff (absS s false) ho n r a p

theorem srcRun_sim (fs : List Frame) : ∀ (s : S), Inv s → ∀ flag : Bool, Sim s (runFrames (absS s flag) fs) (srcRun s fs) := by
  induction fs with
  | nil => exact fun s h flag => Sim.refl h flag
  | cons f fs ih =>
    intro s h flag
    obtain ⟨s1, h1, h2, -, -⟩ := frame_received_open s h f flag
    have := h2.trans (ih s1 h2.inv (onFrame (absS s flag) f).1.ackTimeoutReset)
    rw [h2.abs] at this
    simpa only [srcRun, h1, runFrames] using this

/-- **any frame sequence, source level**: what `frame_received` of the source hands up over a whole sequence of frames is
exactly the payloads that were in sequence when they arrived, in order, each once; the expected number follows
the abstract acceptor -/
theorem c04_src_sequence (s : S) (hw : WFs s) (hrx : s.rx_seq < 8) (ho : isOpen s = true) (fs : List Frame)
    (acc : List (List UInt8)) :
    ((srcRun s fs).rx_seq, acc ++ ups (srcEvs s (srcRun s fs))) = fs.foldl specStep (s.rx_seq, acc) := by
  have h := srcRun_sim fs s ⟨ho, hw, hrx⟩ false
  rw [h.evs]
  exact (congrArg (fun m : Rx => (m.rxSeq, acc ++ ups (runFrames (absS s false) fs).2)) h.abs).trans
    (c04_sequence (absS s false) ho fs acc)

example : WFs {} ∧ ({} : S).rx_seq < 8 ∧ isOpen {} = true := ⟨⟨by simp, by simp, by simp⟩, by decide, by decide⟩

end Source

end BV.Props.C04
