/-
C08 — malformed or unexpected EZSP frames are contained.
Model: BV.Rx.frameReceived = the guard of EZSP.frame_received around the codec model (C07) and the
command-layer model (C06).  Then the same clauses over the definitions generated from `ProtocolHandler.__call__` and
`EZSP.frame_received`.
-/
import BV.Model.Ezsp.Rx
import BV.Props.C06
import BV.Proofs.Src.Proto
namespace BV.Props.C08
open BV.Cmd BV.Rx BV.Codec

/-- what bytes can be: empty, too short for a header, an unknown frame ID, a known frame whose payload
does not decode, or a frame that decodes fully — nothing else (the classification is total), and only
the last kind carries a sequence number and frame ID into the command layer -/
theorem c08_classify_total (v : Nat) (cs : List Codec.Cmd) (d : List UInt8) :
    (classify v cs d).1 = .short ∨ (classify v cs d).1 = .unknown ∨ (classify v cs d).1 = .undecodable ∨
    ∃ seq id name vals tr, rxFrame v cs d = .ok seq id name vals tr ∧
      (classify v cs d).1 = .ok seq id (name == "invalidCommand") 0 := by
  unfold classify
  cases h : rxFrame v cs d with
  | short => exact Or.inl rfl
  | unknown id => exact Or.inr (Or.inl rfl)
  | undecodable n => exact Or.inr (Or.inr (Or.inl rfl))
  | ok seq id name vals tr => exact Or.inr (Or.inr (Or.inr ⟨seq, id, name, vals, tr, rfl, rfl⟩))

/-- **malformed input leaves the command layer untouched**: an empty frame, a frame too short for the
header, an unknown frame ID or an undecodable payload changes no state, completes no call and invokes
no callback (the exception, where there is one, stays inside the guard) -/
theorem c08_malformed_contained (v : Nat) (cs : List Codec.Cmd) (s : St) (d : List UInt8)
    (h : d = [] ∨ (classify v cs d).1 = .short ∨ (classify v cs d).1 = .unknown ∨
         (classify v cs d).1 = .undecodable) :
    (frameReceived v cs s d).1 = s ∧
    ∀ o ∈ (frameReceived v cs s d).2, o = .rxRaised := by
  unfold frameReceived
  split
  · simp
  · rename_i hne
    -- the three malformed classes go the same way: `step` leaves the state and emits at most `rxRaised`
    rcases h with rfl | h | h | h
    · simp at hne
    all_goals rw [h]; simp [step]

/-- **no wrong completion**: a pending command is completed with a payload only by a frame whose header
carries its own sequence number and its own frame ID -/
theorem c08_no_wrong_completion (v : Nat) (cs : List Codec.Cmd) (s : St) (hi : C06.Inv s) (d : List UInt8)
    (c tag : Nat) (hd : Out.done c (.ok tag) ∈ (frameReceived v cs s d).2) :
    ∃ h payload, s.holder = some h ∧ h.caller = c ∧ rxHeader (hdrOf v) d = some (h.seqNo, h.cmdId, payload) := by
  unfold frameReceived at hd
  split at hd
  · simp at hd
  · obtain ⟨h, hh, hc, -, hf⟩ := C06.c06_own_response s hi _ c tag hd
    rcases c08_classify_total v cs d with h1 | h1 | h1 | ⟨seq, id, name, vals, tr, hrx, hcl⟩
    · rw [h1] at hf; cases hf
    · rw [h1] at hf; cases hf
    · rw [h1] at hf; cases hf
    · rw [hcl] at hf
      simp only [Frame.ok.injEq] at hf
      obtain ⟨rfl, rfl, -, -⟩ := hf
      obtain ⟨payload, c', hh', -, -, -⟩ := BV.Proofs.Src.Proto.rx_ok_parts _ _ _ _ _ _ _ _ hrx
      exact ⟨h, payload, hh, hc, hh'⟩

/-- **callbacks only for frames that decode**: a callback is invoked only for bytes that parse, name a
frame of the active version's table and decode fully against its schema -/
theorem c08_callback_only_if_decodes (v : Nat) (cs : List Codec.Cmd) (s : St) (d : List UInt8) (fid tag : Nat)
    (hcb : Out.callback fid tag ∈ (frameReceived v cs s d).2) :
    ∃ seq name vals tr, rxFrame v cs d = .ok seq fid name vals tr := by
  unfold frameReceived at hcb
  split at hcb
  · simp at hcb
  · rcases c08_classify_total v cs d with h1 | h1 | h1 | ⟨seq, id, name, vals, tr, hrx, hcl⟩
    · rw [h1] at hcb; simp [step] at hcb
    · rw [h1] at hcb; simp [step] at hcb
    · rw [h1] at hcb; simp [step] at hcb
    · rw [hcl] at hcb
      simp only [step, C06.onOk_eq] at hcb
      -- `deliver` makes no callback; the only one is that of a frame without an entry
      have hfid : fid = id := by
        split at hcb
        · obtain ⟨rfl, -⟩ : fid = id ∧ tag = 0 := by simpa using hcb
          rfl
        · split at hcb
          · exact absurd hcb C06.deliver_no_callback
          · split at hcb
            · simp at hcb
            · exact absurd hcb C06.deliver_no_callback
      exact ⟨seq, name, vals, tr, hfid ▸ hrx⟩

/-- **commands issued afterwards still complete normally**: from any reachable settled state with the
slot free, a fresh call followed by its matching reply returns that reply -/
theorem c08_still_works (s : St) (hi : C06.Inv s) (hfree : s.holder = none) (c cmd tag : Nat) (p : Int) :
    let s1 := (step s (.call c cmd p)).1
    let s2 := (step s1 (.sendDone true)).1
    (step s (.call c cmd p)).2 = [.sent s.seq cmd] ∧
    (step s2 (.frame (.ok s.seq cmd false tag))).2 = [.done c (.ok tag)] := by
  have hw := hi.queued hfree
  have haw := hi.idle hfree
  obtain ⟨sq, aw, holder, ws, now, pop⟩ := s
  simp only at hfree hw haw
  subst hfree hw haw
  -- with the slot free, the table and the queue empty, the three events compute: the call starts at once, the hand-over returns,
  -- the reply finds the entry just registered and nobody waits for the slot
  simp [step, start, setEntry, onOk, finish, endCall, release, hi.pop]

/-- every reachable state of the command layer satisfies the invariant these theorems assume -/
theorem c08_reachable (seq0 : Nat) (is : List In) : C06.Inv (run { seq := seq0 } is).1 :=
  C06.c06_invariant seq0 is

/-! The same clauses over the definition generated from `ProtocolHandler.__call__` (BV/Gen/SrcProto.lean): `BV.Proofs.Src.Proto`
says what it does for every byte string by the model's classification `rxFrame`. -/
section Src
open BV.Py BV.Src.Proto BV.Proofs.Src.Proto

/-- **malformed or unknown frames are contained** (source level): a frame too short for its header, with a frame ID the version does
not define, or whose payload does not decode leaves every pending entry, every future and the callbacks untouched; the unknown ID
is dropped without an exception, the other two raise (into the guard of `EZSP.frame_received`) -/
theorem c08_src_malformed_contained (s : Proto) (d : List UInt8) :
    (rxFrame s.version s.cmds d = .short → ∃ c, handler_call d s = (.error (.raised c), s)) ∧
    (∀ id, rxFrame s.version s.cmds d = .unknown id → handler_call d s = (.ok (), s)) ∧
    (∀ n, rxFrame s.version s.cmds d = .undecodable n → handler_call d s = (.error (.raised "ValueError"), s)) :=
  ⟨call_short s d, call_unknown s d, call_undecodable s d⟩

/-- **no wrong completion** (source level): whatever bytes arrive, a pending call's future is resolved with values only by a frame
that decodes under the active version, carries the sequence number the call is registered under *and* the frame ID it expects -
and then with exactly the decoded values -/
theorem c08_src_no_wrong_completion (s : Proto) (d : List UInt8) (fid : Nat) (v : Vals)
    (hp : s.futs[fid]? = some .pending) (hr : (handler_call d s).2.futs[fid]? = some (.result v)) :
    ∃ sq id name tr, rxFrame s.version s.cmds d = .ok sq id name v tr ∧ s.awaiting.lookup sq = some (id, fid) ∧
      name ≠ "invalidCommand" :=
  result_only_own_reply s d fid v hp hr

/-- **the receive entry point contains everything** (source level): the generated `EZSP.frame_received`
(BV/Gen/SrcEzspRx.lean) around the generated `__call__` never raises, for every byte string and every state whose pending entries
point to existing futures: the frame is ignored (no handler configured, or empty), or the handler's effects stand and whatever it
raised is swallowed -/
theorem c08_src_guard_contains (s : Proto) (d : List UInt8) (hw : BV.Proofs.Src.Cmd.WF s) :
    BV.Src.EzspRx.frame_received d s =
      (.ok (), if BV.Proofs.Src.Cmd.ignored s d then s else (handler_call d s).2) :=
  BV.Proofs.Src.Cmd.frameReceived_eq s d hw

/-- **a callback is made only for a frame that decodes** (source level), exactly once, and only when no entry waits under the
frame's sequence number -/
theorem c08_src_callback_only_if_decodes (s : Proto) (d : List UInt8) (hne : (handler_call d s).2.trace ≠ s.trace) :
    ∃ sq id name vals tr, rxFrame s.version s.cmds d = .ok sq id name vals tr ∧ s.awaiting.lookup sq = none ∧
      (handler_call d s).2.trace = s.trace ++ [.callback name vals] := by
  obtain ⟨c, -, e⟩ := call_eq s d
  rw [e] at hne ⊢
  cases hc : rxFrame s.version s.cmds d with
  | ok sq id name vals tr =>
    simp only [hc, callSpec, callOk_trace] at hne ⊢
    cases hl : s.awaiting.lookup sq with
    | none => exact ⟨sq, id, name, vals, tr, rfl, hl, by simp⟩
    | some x => simp [hl] at hne
  | _ => rw [hc] at hne; exact absurd rfl hne

/-- non-vacuity: the hypotheses of the case theorems are met by a v8 handler with `nop` (ID 5) waiting under sequence number 7 and
its reply `07 80 01 05 00` -/
example : rxFrame 8 [⟨"nop", 5, [], []⟩] [7, 0x80, 1, 5, 0] = .ok 7 5 "nop" [] [] := by
  simp [rxFrame, rxHeader, hdrOf, findById, deFields, Cmd.rxT]

example : (handler_call [7, 0x80, 1, 5, 0]
      { version := 8, cmds := [⟨"nop", 5, [], []⟩], awaiting := [(7, (5, 0))], futs := [.pending] }).2.futs[0]? = some (.result []) := by
  rw [call_reply _ _ 7 5 0 "nop" [] [] (by simp [rxFrame, rxHeader, hdrOf, findById, deFields, Cmd.rxT]) (by simp) (by decide) (by simp)]
  simp

end Src

end BV.Props.C08
