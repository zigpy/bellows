/-
C03 — ASH frames on the wire follow the specified layout bit for bit.
Model: BV.Ash (mirrors bellows/ash.py, constants generated from the source).
Spec:  BV.Spec.Ash (written independently with plain arithmetic).
-/
import BV.Proofs.Ash.FrameLemmas
import BV.Proofs.Src.Ash
namespace BV.Props.C03
open BV.Ash BV.Spec.Ash BV.Gen.Ash

/-- CRC anchor: the published check value of CRC-16/CCITT-FALSE -/
theorem c03_crc_check_value :
    crc [0x31, 0x32, 0x33, 0x34, 0x35, 0x36, 0x37, 0x38, 0x39] = 0x29B1#16 := by decide +kernel

/-- the generated `PSEUDO_RANDOM_DATA_SEQUENCE` is the specification's LFSR output, all 256 bytes -/
theorem c03_lfsr : pseudoRandom = randSeq := pseudoRandom_eq

/-- every one of the 256 control bytes selects the class the specification's value ranges give,
and at most one of the six (mask, value) pairs of the generated constants matches it -/
theorem c03_classify : ∀ c : UInt8, classify c = specClass c.toNat ∧
    ([c &&& dataMask == dataMaskValue, c &&& ackMask == ackMaskValue, c &&& nakMask == nakMaskValue,
      c &&& rstMask == rstMaskValue, c &&& rstackMask == rstackMaskValue,
      c &&& errorMask == errorMaskValue].count true ≤ 1) := by
  apply forall_uint8; decide +kernel

/-- bytes of every well-formed frame: implementation layout = specification layout -/
theorem c03_layout (f : Frame) (h : f.WF) : encode f = specEncode f := by
  cases f with
  | data fn r a p =>
    obtain ⟨h1, h2, h3⟩ := h
    obtain ⟨hc, -⟩ := ctl_data fn h1 r a h2
    simp [encode, specEncode, specAppendCrc_eq, ctl, dataField, hc, specRandomize, randomize, pseudoRandom_eq]
  | ack s n a =>
    obtain ⟨hc, -⟩ := ctl_ack s n a h
    simp [encode, specEncode, specAppendCrc_eq, ctl, dataField, hc]
  | nak s n a =>
    obtain ⟨hc, -⟩ := ctl_nak s n a h
    simp [encode, specEncode, specAppendCrc_eq, ctl, dataField, hc]
  | rst => simp [encode, specEncode, specAppendCrc_eq, ctl, dataField, rstMaskValue]
  | rstack v c => simp [encode, specEncode, specAppendCrc_eq, ctl, dataField, rstackMaskValue]
  | error v c => simp [encode, specEncode, specAppendCrc_eq, ctl, dataField, errorMaskValue]

/-- parsing is the exact inverse of encoding, for all field values and payloads -/
theorem c03_parse_encode (f : Frame) (h : f.WF) : parse (encode f) = .ok f := by
  cases f with
  | data fn r a p =>
    obtain ⟨h1, h2, h3⟩ := h
    obtain ⟨-, hcl, hf, hr, ha⟩ := ctl_data fn h1 r a h2
    have hlen : ¬ (randomize p).length > pseudoRandom.length := by rw [randomize_length p h3]; omega
    simp only [encode, appendCrc_cons, parse, hcl, unwrap_cons_crc, hlen, ↓reduceIte, hf, hr, ha, randomize_invol p h3]
  | ack s n a =>
    obtain ⟨-, hcl, hs, hn, ha⟩ := ctl_ack s n a h
    simp only [encode, appendCrc_cons, parse, hcl, unwrap_cons_crc, hs, hn, ha]
  | nak s n a =>
    obtain ⟨-, hcl, hs, hn, ha⟩ := ctl_nak s n a h
    simp only [encode, appendCrc_cons, parse, hcl, unwrap_cons_crc, hs, hn, ha]
  | rst =>
    have hcl : classify rstMaskValue = some .rst := by decide
    simp only [encode, appendCrc_cons, parse, hcl, unwrap_cons_crc]; rfl
  | rstack v c =>
    cases (h : v = 2)
    have hcl : classify rstackMaskValue = some .rstack := by decide
    simp only [encode, appendCrc_cons, parse, hcl, unwrap_cons_crc]; rfl
  | error v c =>
    cases (h : v = 2)
    have hcl : classify errorMaskValue = some .error := by decide
    simp only [encode, appendCrc_cons, parse, hcl, unwrap_cons_crc]; rfl

example : (Frame.data 7 true 5 [0x7E, 0x00, 0x11]).WF ∧ (Frame.rstack 2 0x0B).WF := by decide +kernel

/-- `unstuff` inverts `stuff` on every byte string -/
theorem c03_unstuff_stuff (bs : List UInt8) : unstuff (stuff bs) = some bs := unstuff_stuff bs

/-- stuffed output contains no reserved byte other than the escape byte -/
theorem c03_stuff_clean (bs : List UInt8) : ∀ b ∈ stuff bs, isReserved b = true → b = resEscape :=
  stuff_clean bs

/-- the implementation's stuffing is the specification's (reserved set and bit-5 inversion) -/
theorem c03_stuff_spec (bs : List UInt8) : stuff bs = specStuff bs := (specStuff_eq bs).symm

/-- bytes handed to the transport = prefix, stuffed specification bytes, flag -/
theorem c03_write_frame (pre : List UInt8) (f : Frame) (h : f.WF) : wire pre f = specWire pre f := by
  simp [wire, specWire, c03_layout f h, specStuff_eq, resFlag]

theorem parse_ok_crcValid {d : List UInt8} {f : Frame} (h : parse d = .ok f) : crcValid d := by
  unfold parse at h
  split at h
  · simp at h
  · rename_i c0 tl
    split at h
    · simp at h
    · split at h
      · simp at h
      · rename_i cls c rest hu
        unfold unwrap at hu
        split at hu
        · simp at hu
        · rename_i hlen
          dsimp only at hu
          split at hu
          · simp at hu
          · rename_i hcrc
            exact ⟨by omega, by simpa using hcrc⟩

/-- **one or two wrong bits are always detected**: if `d` is accepted (any frame of at most 4 095
bytes; DATA frames are at most 259) then `d` with one or two bits inverted is rejected -/
theorem c03_crc_detects_1_2_bit_errors (d e : List UInt8) (f : Frame) (hok : parse d = .ok f)
    (hl : d.length = e.length) (hlen : d.length ≤ 4095) (hw : weight e = 1 ∨ weight e = 2) :
    ∀ g, parse (xorBytes d e) ≠ .ok g := by
  intro g hg
  exact crc_detects d e hl hlen hw (parse_ok_crcValid hok) (parse_ok_crcValid hg)

example : (parse [0xC1, 0x02, 0x0B, 0x0A, 0x52]).toOption = some (.rstack 2 0x0B) ∧
    weight [0, 0x40, 0, 0, 0x01] = 2 := by decide +kernel


/-! ## the same statements over the definitions generated from the source text (BV/Gen/SrcAsh.lean)

`BV.Src.Ash.*` below are not hand-written: harness/pytrans.py produces them from the syntax tree of
bellows/ash.py on every run.  These theorems are therefore re-checked against the code as it is now. -/

section Source
open BV.Proofs.Src.Ash

/-- `generate_random_sequence(256)` of the source is the LFSR sequence of the specification -/
theorem c03_src_lfsr : BV.Src.Ash.generate_random_sequence 256 = .ok randSeq :=
  generate_random_sequence_eq 256

/-- `_stuff_bytes` of the source is the specification's stuffing, never raises, and what it produces
is undone by `_unstuff_bytes` of the source -/
theorem c03_src_stuff (bs : List UInt8) :
    BV.Src.Ash.stuff_bytes bs = .ok (specStuff bs) ∧
    BV.Src.Ash.unstuff_bytes (specStuff bs) = .ok bs := by
  refine ⟨by rw [stuff_eq, c03_stuff_spec], ?_⟩
  rw [unstuff_eq, ← c03_stuff_spec, c03_unstuff_stuff]
  simp [unstuffRes]

/-- `_unstuff_bytes` of the source on *any* byte string: the model's result, or `ParsingError` exactly when
an escape is followed by a byte that does not decode to a reserved value -/
theorem c03_src_unstuff (bs : List UInt8) :
    BV.Src.Ash.unstuff_bytes bs = match unstuff bs with
      | some r => .ok r
      | none => .error (.raised "ParsingError") := by
  rw [unstuff_eq]; cases unstuff bs <;> simp [unstuffRes]

/-- `frame.to_bytes()` of the source lays every well-formed frame out as the specification says -/
theorem c03_src_to_bytes (f : Frame) (h : f.WF) :
    BV.Src.Ash.Frame.to_bytes (ofM f) = .ok (specEncode f) := by
  rw [to_bytes_eq f h, c03_layout f h]

/-- `parse_frame` of the source inverts `to_bytes` of the source on every well-formed frame -/
theorem c03_src_parse_encode (f : Frame) (h : f.WF) :
    ∃ bs, BV.Src.Ash.Frame.to_bytes (ofM f) = .ok bs ∧ parsed bs = some f := by
  refine ⟨encode f, to_bytes_eq f h, ?_⟩
  rw [parse_frame_eq, c03_parse_encode f h]; rfl

/-- `parse_frame` of the source accepts exactly what the model's parser accepts, with the same fields -/
theorem c03_src_parse (d : List UInt8) : parsed d = (parse d).toOption := parse_frame_eq d

theorem parsed_some_iff (d : List UInt8) (f : Frame) : parsed d = some f ↔ parse d = .ok f := by
  rw [parse_frame_eq]
  cases parse d <;> simp [Except.toOption]

/-- `parse_frame` of the source never accepts a 1- or 2-bit corruption of a frame it accepts (the CRC theorem,
transported to the source-level parser) -/
theorem c03_src_crc_detects (d e : List UInt8) (f : Frame) (hok : parsed d = some f)
    (hl : d.length = e.length) (hlen : d.length ≤ 4095) (hw : weight e = 1 ∨ weight e = 2) :
    parsed (xorBytes d e) = none := by
  have h := c03_crc_detects_1_2_bit_errors d e f ((parsed_some_iff d f).mp hok) hl hlen hw
  cases hp : parsed (xorBytes d e) with
  | none => rfl
  | some g => exact absurd ((parsed_some_iff _ g).mp hp) (h g)

example : parsed [0x25, 0x42, 0x21, 0xa8, 0x56, 0xa6, 0x09] = some (.data 2 false 5 [0, 0, 0, 2]) := by
  decide +kernel

end Source

end BV.Props.C03
