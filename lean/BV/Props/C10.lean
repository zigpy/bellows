/-
C10 — NCP failure or connection loss at any moment is reported and never hangs.
Models: BV.Fail (EZSP failure handling) on the outputs of BV.Reset (gateway) and BV.Ash (link).
-/
import BV.Model.Stack.Fail
import BV.Model.Ash.Sender
import BV.Model.Ezsp.Cmd
-- C05 and C11 are imported for what they rest on as well: the failure paths run on the sender and reset models, so a
-- change to bellows that breaks those modules' obligations breaks this one's too
import BV.Props.C05
import BV.Props.C11
import BV.Proofs.ResetLemmas
namespace BV.Props.C10
open BV.Fail

/-- **reported**: with an application attached, every failure notification (ERROR frame, RSTACK with a
non-software code, exhausted ACK budget, connection loss with an error) produces exactly one
controller-reset request carrying the reason, stops EZSP and closes the gateway -/
theorem c10_reported (s : Ez) (h : s.callbacks > 1) (e : Ev) (he : e = .connectionLost ∨ ∃ c, e = .ncpFailure c) :
    ∃ reason, ((step s e).2.filter fun o => match o with | .resetRequest _ => true | _ => false) = [.resetRequest reason] ∧
      (step s e).1.running = false ∧ (step s e).1.gwHeld = false := by
  -- both notifications are `enter_failed_state` with some reason
  obtain ⟨reason, hr⟩ : ∃ reason, step s e = enterFailed s reason := by
    rcases he with rfl | ⟨c, rfl⟩ <;> exact ⟨_, rfl⟩
  refine ⟨reason, ?_⟩
  simp only [hr, enterFailed, h, ↓reduceIte, close]
  -- `close` closes the transport only if the gateway is still held; the request is added in both cases
  split <;> simp_all

/-- without an application attached nothing is requested and nothing is closed -/
theorem c10_no_application (s : Ez) (h : s.callbacks ≤ 1) (e : Ev) (he : e = .connectionLost ∨ ∃ c, e = .ncpFailure c) :
    step s e = (s, []) := by
  have : ¬ s.callbacks > 1 := by omega
  rcases he with rfl | ⟨c, rfl⟩ <;> simp [step, enterFailed, this]

theorem close_running (s : Ez) : (close s).1.running = false := by
  unfold close
  split <;> rfl

theorem enterFailed_running (s : Ez) (reason : String) (h : s.running = false) :
    (enterFailed s reason).1.running = false := by
  unfold enterFailed
  split
  · exact close_running s   -- an application is attached: `close`
  · exact h                 -- none: the state is untouched

/-- **silent afterwards**: once stopped, every new command raises at the gate and nothing is sent; and
EZSP stays stopped under any further failure events -/
theorem c10_silent_after (s : Ez) (h : s.running = false) :
    (step s .command).2 = [.commandRaised] ∧
    ∀ e, e ≠ .command → (step s e).1.running = false := by
  refine ⟨by simp [step, h], ?_⟩
  intro e he
  cases e with
  | ncpFailure _ | connectionLost => exact enterFailed_running s _ h
  | closedQuietly => exact h
  | close => exact close_running s
  | stop => simp [step]
  | command => exact absurd rfl he

/-- **a deliberate close produces no request**: `close()` followed by the transport's
`connection_lost(None)` yields no controller-reset request, whatever is attached -/
theorem c10_close_silent (s : Ez) :
    let s1 := (step s .close).1
    (∀ o ∈ (step s .close).2 ++ (step s1 .closedQuietly).2, ∀ r, o ≠ .resetRequest r) ∧ s1.running = false := by
  simp only [step, close]
  split <;> simp   -- on `s.gwHeld`: with or without `closeTransport`, never a request

/-- the gateway model tells EZSP about a connection loss exactly when there was an error, and about an
ASH-level failure code through `enter_failed_state` only (see C11: `connection_lost(None)` is quiet) -/
theorem c10_gateway_quiet_close (g : BV.Reset.GW) :
    ∀ o ∈ (BV.Reset.connectionLost g false).2, ofGateway o = none := by
  rw [BV.Reset.connectionLost_snd]
  cases g.connDonePending <;> simp [ofGateway]

/-- of the gateway model's outputs on `connection_lost(exc)` with an error, exactly one reaches EZSP: the connection loss -/
theorem c10_gateway_loss_reported (g : BV.Reset.GW) :
    ((BV.Reset.connectionLost g true).2.filterMap ofGateway) = [.connectionLost] := by
  rw [BV.Reset.connectionLost_snd]
  cases g.connDonePending <;> rfl

/-- **no hang**: bound on how long a call in progress can last after the failure, from the generated
constants: the response wait is capped by EZSP_CMD_TIMEOUT and the link by ACK_TIMEOUTS attempts of at
most T_RX_ACK_MAX each (C05's clamp) -/
theorem c10_no_hang_bound :
    BV.Cmd.cmdTimeout + (BV.Gen.Ash.ackTimeouts : Rat) * BV.Ash.tMax = 26 := by decide +kernel

/-- the two ingredients of the bound, from C05 and C06: a send ends within its attempt budget with each
wait clamped, and a call waits for its reply for exactly EZSP_CMD_TIMEOUT -/
theorem c10_no_hang_parts (v : Rat) :
    BV.Ash.clampT v ≤ BV.Ash.tMax ∧ 0 < BV.Gen.Ash.ackTimeouts := ⟨(C05.c05_timeout_clamped v).2, by decide⟩

example : (step { callbacks := 2 } (.ncpFailure 2)).2 = [.closeTransport, .resetRequest "code 2"] := by decide +kernel

end BV.Props.C10
