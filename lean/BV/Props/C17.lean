/-
C17 — event-completed operations never miss their completing event or leak listeners.
Model: BV.Events (wait_for_stack_status / formNetwork / leaveNetwork / _ensure_network_running /
_list_command at settled loop states).  Listeners and callbacks are *derived* from the operations in
progress, so "no leak" is: every reported outcome removes its operation.
-/
import BV.Model.Ezsp.Events
namespace BV.Props.C17
open BV.Events

theorem timeouts_eq : Kind.form.timeout = 10 ∧ Kind.leave.timeout = 10 ∧ Kind.bringUp.timeout = 10 := by
  decide +kernel

/-- listeners and scan callbacks belong only to operations in progress -/
theorem c17_registered_subset (s : St) (st : Stat) :
    (∀ id ∈ listeners s st, id ∈ s.ops.map (·.id)) ∧ (∀ id ∈ callbacks s, id ∈ s.ops.map (·.id)) :=
  ⟨fun _ h => (List.filter_sublist.map _).subset h, fun _ h => (List.filter_sublist.map _).subset h⟩

/-- **no leak**: the step that reports an operation's outcome - success, refusal, timeout,
cancellation, failed completion - removes the operation, hence its listener and its callback -/
theorem c17_no_leak (s : St) (o : Op) (r : Res) (st : Stat) :
    (finish s o r).2 = [.done o.id r] ∧ o.id ∉ (finish s o r).1.ops.map (·.id) ∧
    o.id ∉ listeners (finish s o r).1 st ∧ o.id ∉ callbacks (finish s o r).1 := by
  have hno : o.id ∉ (finish s o r).1.ops.map (·.id) := by
    simp only [finish, drop, List.mem_map, List.mem_filter, decide_eq_true_eq, not_exists, not_and]
    intro x hx h; exact hx.2 h
  refine ⟨rfl, hno, ?_, ?_⟩
  · intro h; exact hno ((c17_registered_subset _ st).1 _ h)
  · intro h; exact hno ((c17_registered_subset _ st).2 _ h)

/-- an operation that ends is gone; the others keep their registration -/
theorem c17_cancel (s : St) (o : Op) (h : s.ops.find? (·.id = o.id) = some o) :
    step s (.cancel o.id) = finish s o .cancelled := by
  simp [step, h]

/-- **the event is observed whenever it arrives after the command was issued - even before the command's
own response**: begin, matching event, successful response ⇒ the operation returns -/
theorem c17_event_before_response (id : Nat) (k : Kind) (hk : k = .form ∨ k = .leave) :
    (run {} [.begin id k, .status k.want, .resp id .ok]).2 = [[.cmd id 0], [], [.done id (.ok [])]] ∧
    (run {} [.begin id k, .status k.want, .resp id .ok]).1.ops = [] := by
  rcases hk with rfl | rfl <;> simp [run, step, listening, Kind.want, upd, finish, drop]

/-- … and after the response -/
theorem c17_event_after_response (id : Nat) (k : Kind) (hk : k = .form ∨ k = .leave) :
    (run {} [.begin id k, .resp id .ok, .status k.want]).2 = [[.cmd id 0], [], [.done id (.ok [])]] ∧
    (run {} [.begin id k, .resp id .ok, .status k.want]).1.ops = [] := by
  rcases hk with rfl | rfl <;> simp [run, step, listening, Kind.want, upd, finish, drop, Kind.timeout]

/-- bring-up: already joined ⇒ nothing to do; otherwise initialise and wait for NETWORK_UP -/
theorem c17_bring_up (id : Nat) :
    (run {} [.begin id .bringUp, .resp id .joined]).2 = [[.cmd id 0], [.done id .notStarted]] ∧
    (run {} [.begin id .bringUp, .resp id .ok, .resp id .ok, .status .up]).2 =
      [[.cmd id 0], [.cmd id 1], [], [.done id (.ok [])]] ∧
    (run {} [.begin id .bringUp, .resp id .ok, .resp id .notJoined]).2 = [[.cmd id 0], [.cmd id 1], [.done id .notJoined]] := by
  refine ⟨?_, ?_, ?_⟩ <;> simp [run, step, listening, Kind.want, upd, finish, drop, Kind.timeout]

/-- an event that arrived before the operation was started does not complete it, nor does a
non-matching event: the operation then ends by TimeoutError exactly `timeout` after its command succeeded -/
theorem c17_no_stale_event (id : Nat) (k : Kind) (hk : k = .form ∨ k = .leave) (oth : Stat) (ho : oth ≠ k.want) :
    (run {} [.status k.want, .begin id k, .resp id .ok, .status oth, .timer]).2 =
      [[], [.cmd id 0], [], [], [.done id .timeout]] ∧
    (run {} [.status k.want, .begin id k, .resp id .ok, .status oth, .timer]).1.now = k.timeout := by
  have ho' : ¬ k.want = oth := fun e => ho e.symm
  -- `Kind.want` and `Kind.timeout` stay folded: `ho'` has to meet `k.want = oth` in the goal, and the clock `k.timeout`
  rcases hk with rfl | rfl <;>
    simp [run, step, listening, upd, finish, drop, nextDeadline, fireDue, Rat.zero_add, ho']

/-- a refused command ends the operation with its error at once, and nothing stays registered -/
theorem c17_refused (id : Nat) (k : Kind) (hk : k = .form ∨ k = .leave ∨ k = .scan) :
    (run {} [.begin id k, .resp id .refused]).2 = [[.cmd id 0], [.done id .refused]] ∧
    (run {} [.begin id k, .resp id .refused]).1.ops = [] := by
  rcases hk with rfl | rfl | rfl <;> simp [run, step, finish, drop]

/-- **scan window**: the result list is, in order, every result callback processed from the issue of
the scan to its completion callback; one processed before the scan was issued is not in it; a failed
completion raises -/
theorem c17_scan_window (id a b c : Nat) :
    (run {} [.item a, .begin id .scan, .item b, .resp id .ok, .item c, .complete true]).2.getLast? =
      some [.done id (.ok [b, c])] ∧
    (run {} [.item a, .begin id .scan, .resp id .ok, .item b, .complete false]).2.getLast? =
      some [.done id .completionFailed] ∧
    (run {} [.begin id .scan, .item b, .complete true, .resp id .ok]).2.getLast? = some [.done id (.ok [b])] := by
  refine ⟨?_, ?_, ?_⟩ <;> simp [run, step, upd, finish, drop]

/-- items are appended, in arrival order, to every scan in progress and to nothing else -/
theorem c17_item (s : St) (tag : Nat) :
    (step s (.item tag)).2 = [] ∧
    (step s (.item tag)).1.ops = s.ops.map fun o => if o.kind = .scan then { o with results := o.results ++ [tag] } else o := by
  simp [step]

example : (run {} [.begin 1 .form, .begin 2 .scan, .status .up, .resp 1 .ok, .cancel 2]).1 = {} := by
  decide +kernel

end BV.Props.C17
