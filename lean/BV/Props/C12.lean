/-
C12 — a unicast is reported delivered only on its own delivery confirmation.
Model: BV.Send (send_packet / _handle_frame_sent at settled loop states; `_req_lock` as an explicit
holder; the pending table = the list of requests in progress).
-/
import BV.Model.App.Send
namespace BV.Props.C12
open BV.Send

/-- **no bookkeeping remains**: whatever the outcome (success, refusal, busy, failed confirmation,
timeout, cancellation, an exception from the command layer), the request's (destination, tag) entry is
gone from the pending table in the very step that reports the outcome -/
theorem c12_no_leak (s : St) (r : Req) (res : Res) : ∀ x ∈ (finish s r res).1.reqs, x.id ≠ r.id := by
  intro x hx
  simp only [finish, drop, List.mem_filter, decide_eq_true_eq] at hx
  exact hx.2

theorem holder_lock {s : St} {r : Req} (h : holder s = some r) : s.lock = some r.id := by
  unfold holder at h
  cases hl : s.lock with
  | none => simp [hl] at h
  | some a =>
    rw [hl, Option.bind_some] at h
    have := List.find?_some h
    rw [of_decide_eq_true this]

theorem enter_cmd {s : St} {r : Req} {id : Nat} {st : Step} (h : Out.cmd id st ∈ (enter s r).2) :
    (enter s r).1.lock = some id := by
  unfold enter at h ⊢
  split at h
  · simp at h
  · rename_i heq
    simp only [List.mem_singleton, Out.cmd.injEq] at h
    rw [heq, h.1]

theorem grant_cmd {s : St} {id : Nat} {st : Step} (h : Out.cmd id st ∈ (grant s).2) :
    (grant s).1.lock = some id := by
  unfold grant at h ⊢
  cases hw : s.lockWaiters with
  | nil => simp [hw] at h
  | cons w ws =>
    simp only [hw] at h ⊢
    cases hr : s.reqs.find? (·.id = w) with
    | none => simp [hr] at h
    | some r =>
      simp only [hr] at h ⊢
      exact enter_cmd h

/-- What the lock discipline asks of a transition from `s`: commands go out only on behalf of the request that
holds the lock afterwards, and a request that held it before keeps it and sees no command issued.  Every
transition that does not release the lock is of this kind, and the notion composes (`Polite.trans`). -/
structure Polite (s : St) (x : St × List Out) : Prop where
  under : ∀ id st, Out.cmd id st ∈ x.2 → x.1.lock = some id
  held : ∀ a, s.lock = some a → x.1.lock = some a ∧ ∀ id st, Out.cmd id st ∉ x.2

theorem Polite.quiet {s : St} {x : St × List Out} (hl : x.1.lock = s.lock) (ho : ∀ id st, Out.cmd id st ∉ x.2) :
    Polite s x :=
  ⟨fun id st h => absurd h (ho id st), fun _ ha => ⟨hl ▸ ha, ho⟩⟩

theorem Polite.trans {s s1 s2 : St} {o1 o2 : List Out} (h1 : Polite s (s1, o1)) (h2 : Polite s1 (s2, o2)) :
    Polite s (s2, o1 ++ o2) where
  under id st h := (List.mem_append.mp h).elim (fun h => (h2.held id (h1.under id st h)).1) (h2.under id st)
  held a ha := ⟨(h2.held a (h1.held a ha).1).1, fun id st h => (List.mem_append.mp h).elim
    ((h1.held a ha).2 id st) ((h2.held a (h1.held a ha).1).2 id st)⟩

theorem polite_finish (s : St) (r : Req) (res : Res) : Polite s (finish s r res) :=
  .quiet rfl (by simp [finish])

theorem polite_acquire (s : St) (r : Req) : Polite s (acquire s r) := by
  unfold acquire
  split
  · rename_i hc
    exact ⟨fun _ _ h => enter_cmd h, fun a ha => by simp [ha] at hc⟩
  · exact .quiet rfl (by simp)

theorem polite_fireOne {s : St} {x : St × List Out} (h : fireOne s = some x) : Polite s x := by
  unfold fireOne at h
  split at h
  · cases h                               -- no deadline is armed
  · split at h
    · cases h                             -- the earliest one is not due
    · split at h                          -- on the phase of the request whose deadline fires
      · split at h <;> cases h            -- a retry delay ran out: that was the last attempt, or the next begins
        · exact polite_finish ..
        · exact polite_acquire ..
      · cases h; exact polite_finish ..   -- the confirmation did not come in time
      · cases h                           -- no other phase arms a deadline

theorem polite_fireDue (n : Nat) (s : St) : Polite s (fireDue n s) := by
  induction n generalizing s with
  | zero => exact .quiet rfl (by simp [fireDue])
  | succ n ih =>
    unfold fireDue
    cases hf : fireOne s with
    | none => exact .quiet rfl (by simp)
    | some x => exact (polite_fireOne hf).trans (ih x.1)

/-- `step` first updates `seq`, `reqs` or `now`, never `lock`: polite from the updated state is polite from `s` -/
theorem Polite.of_lock {s s' : St} {x : St × List Out} (p : Polite s' x) (h : s'.lock = s.lock := by rfl) :
    Polite s x :=
  ⟨p.under, fun a ha => p.held a (h ▸ ha)⟩

/-- every input that does not end the holder's section is polite -/
theorem polite_step (s : St) (i : In)
    (hi : match i with | .cmdDone _ | .cmdRaise => False | .cancel c => s.lock ≠ some c | _ => True) :
    Polite s (step s i) := by
  cases i with
  | cmdDone e => cases hi
  | cmdRaise => cases hi
  | send rid dst kind steps => exact (polite_acquire ..).of_lock
  | confirm dst tag ok =>
    simp only [step]
    split
    · exact .quiet rfl (by simp)
    · split
      · exact .quiet rfl (by simp)
      · split
        · exact polite_finish ..
        · exact .quiet rfl (by simp)
  | timer =>
    simp only [step]
    split
    · exact .quiet rfl (by simp)
    · exact (polite_fireDue ..).of_lock
  | wait d => exact (polite_fireDue ..).of_lock
  | cancel c =>
    simp only [step]
    split
    · exact .quiet rfl (by simp)
    · rw [if_neg hi]; exact polite_finish ..

/-- the holder's section has ended and only its outcome is reported: the oldest waiter, if any, enters -/
theorem release_grant {s1 : St} {o1 : List Out} (ho : ∀ id st, Out.cmd id st ∉ o1) {id : Nat} {st : Step}
    (h : Out.cmd id st ∈ o1 ++ (grant s1).2) : (grant s1).1.lock = some id :=
  (List.mem_append.mp h).elim (fun h => absurd h (ho id st)) grant_cmd

/-- **set-up and send are never interleaved**: every EZSP command that `send_packet` issues is issued on
behalf of the request that holds `_req_lock` when the step settles -/
theorem c12_setup_atomic (s : St) (i : In) (id : Nat) (st : Step) (h : Out.cmd id st ∈ (step s i).2) :
    (step s i).1.lock = some id := by
  cases i with
  | send _ _ _ _ | confirm _ _ _ | timer | wait _ => exact (polite_step s _ trivial).under id st h
  | cancel cid =>
    by_cases hl : s.lock = some cid
    · simp only [step] at h ⊢
      split at h
      · simp at h
      · simp only [hl, ↓reduceIte] at h ⊢
        exact release_grant (by simp [finish]) h
    · exact (polite_step s (.cancel cid) hl).under id st h
  | cmdRaise =>
    simp only [step] at h ⊢
    split at h
    · simp at h
    · exact release_grant (by simp [finish]) h
  | cmdDone e =>
    simp only [step] at h ⊢
    cases hh : holder s with
    | none => simp [hh] at h
    | some r =>
      simp only [hh] at h ⊢
      split
      · -- the send command itself returned: the section ends, whatever the NCP answered
        rename_i rest hp
        simp only [hp] at h
        cases e <;> simp only at h ⊢ <;> refine release_grant ?_ h
        · unfold afterEnqueue   -- accepted: at most the outcome is reported
          split
          · simp [finish]
          · split <;> simp [finish]
        · simp                  -- busy: the request goes to sleep
        · simp [finish]         -- refused
      · rename_i x next rest hp
        simp only [hp, List.mem_singleton, Out.cmd.injEq] at h ⊢
        -- the holder issues its next set-up command and keeps the lock
        simp only [upd]
        rw [h.1]; exact holder_lock hh
      · -- the holder is in no running phase: nothing is issued
        split at h <;> simp_all

/-- while a request holds the lock, a new request, a confirmation, a deadline or a clock advance neither
takes the lock away nor issues any command: only the holder's own command completing (or failing) or its
cancellation ends its section -/
theorem c12_holder_undisturbed (s : St) (a : Nat) (ha : s.lock = some a) (i : In)
    (hi : (∃ id dst k st, i = .send id dst k st) ∨ (∃ d t ok, i = .confirm d t ok) ∨ i = .timer ∨ (∃ d, i = .wait d) ∨
          (∃ c, i = .cancel c ∧ c ≠ a)) :
    (step s i).1.lock = some a ∧ ∀ id st, Out.cmd id st ∉ (step s i).2 := by
  refine (polite_step s i ?_).held a ha
  rcases hi with ⟨_, _, _, _, rfl⟩ | ⟨_, _, _, rfl⟩ | rfl | ⟨_, rfl⟩ | ⟨c, rfl, hc⟩
  · trivial
  · trivial
  · trivial
  · trivial
  · exact fun h => hc (Option.some.inj (h.symm.trans ha))

/-- **foreign, duplicate and unsolicited confirmations never complete a request**: a confirmation whose
(destination, tag) matches no request in progress is counted and ignored; one for a request that already
has its confirmation is counted as a duplicate and ignored; neither changes any state -/
theorem c12_foreign_ignored (s : St) (dst tag : Nat) (ok : Bool) :
    (s.reqs.find? (fun r => r.dst = dst ∧ r.tag = tag) = none → step s (.confirm dst tag ok) = (s, [.unexpected])) ∧
    (∀ r b, s.reqs.find? (fun r => r.dst = dst ∧ r.tag = tag) = some r → r.fut = .result b →
        step s (.confirm dst tag ok) = (s, [.duplicate])) := by
  constructor
  · intro h; simp only [step, h]
  · intro r b h hf; simp only [step, h, hf]

/-- **the own confirmation decides**: for the request waiting under (destination, tag), a confirmation
with that destination and tag ends it - delivered iff it reports success, otherwise a delivery error -/
theorem c12_own_confirmation (s : St) (r : Req) (d : Rat) (ok : Bool)
    (h : s.reqs.find? (fun x => x.dst = r.dst ∧ x.tag = r.tag) = some r) (hf : r.fut = .pending)
    (hp : r.phase = .confirm d) :
    step s (.confirm r.dst r.tag ok) = finish s r (if ok then .ok else .failedConfirm) := by
  simp only [step, h, hf, hp]

/-- a `done … ok` for a NWK-addressed request arises only from its own successful confirmation: either it
arrives while the request waits for it, or it arrived before the NCP accepted the message -/
theorem c12_ok_iff (s : St) (r : Req) (hk : r.kind = .unicast) :
    (afterEnqueue s r).2 = [.done r.id .ok] → r.fut = .result true := by
  unfold afterEnqueue
  simp only [hk, ne_eq, not_true_eq_false, ↓reduceIte]
  cases hf : r.fut with
  | pending => simp
  | result b => cases b <;> simp [finish]

/-- errors: a refusal ends the request at once; a busy reply arms exactly the configured retry delay;
after the last configured attempt the request gives up; a missing confirmation raises exactly
APS_ACK_TIMEOUT after the NCP accepted the message -/
theorem c12_errors :
    delays = [1/2, 1, 3/2] ∧ apsTimeout = 120 ∧
    (∀ (s : St) (r : Req), r.kind = .unicast → r.fut = .pending →
        (afterEnqueue s r).1.reqs = (upd s { r with phase := .confirm (s.now + apsTimeout) }).reqs ∧ (afterEnqueue s r).2 = []) ∧
    (∀ (s : St) (r : Req) (u : Rat), r.phase = .sleeping u → nextDeadline s = some (u, r) → u ≤ s.now →
        r.attempt + 1 ≥ delays.length → fireOne s = some (finish s r .busyGaveUp)) ∧
    (∀ (s : St) (r : Req) (u : Rat), r.phase = .confirm u → nextDeadline s = some (u, r) → u ≤ s.now →
        fireOne s = some (finish s r .timeout)) := by
  refine ⟨by decide +kernel, by decide +kernel, ?_, ?_, ?_⟩
  · intro s r hk hf
    simp [afterEnqueue, hk, hf]
  · intro s r u hp hn hu ha
    have : ¬ u > s.now := Rat.not_lt.mpr hu
    simp [fireOne, hn, this, hp, ha]
  · intro s r u hp hn hu
    have : ¬ u > s.now := Rat.not_lt.mpr hu
    simp [fireOne, hn, this, hp]

example : (run {} [.send 1 0x1234 .unicast [.sourceRoute, .send], .send 2 0x1235 .unicast [.send],
    .cmdDone .ok, .cmdDone .ok, .confirm 0x1234 1 true]).2 =
    [[.cmd 1 .sourceRoute], [], [.cmd 1 .send], [.cmd 2 .send], [.done 1 .ok]] := by decide +kernel

end BV.Props.C12
