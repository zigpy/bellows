/-
C01 — the ASH link delivers payloads exactly once, in order, over a faulty serial line.

Abstract protocol models (BV.Link.H2N: host sends with window 1; BV.Link.N2H: NCP sends with window
W ≤ 3), with ghost absolute frame indices; the wire carries only 3-bit numbers.  Faults: drop and
duplication anywhere in either FIFO channel, corruption of a delivered frame (discarded, answered with
a NAK), stalls (retransmission is enabled at any time), and senders that stop for good.
The host halves of these models are tied to the code through the C04/C05 models: the bridging lemmas
below show that the host's tests on 3-bit numbers are exactly the tests the abstract steps use.
-/
import BV.Proofs.Ash.Link
import BV.Model.Ash.Sender
import BV.Props.C04
namespace BV.Props.C01
open BV.Link

/-- **host → NCP, every reachable state** (any interleaving of transmissions, retransmissions,
deliveries, drops, duplications, corruptions and acknowledgements): the payloads handed to the NCP's
upper layer are exactly frames 0, 1, …, r−1 — each once, in order, nothing invented — and every
frame the host believes acknowledged (index < base) is among them -/
theorem c01_h2n_exactly_once {s : H2N.St} (h : H2N.Reach s) :
    s.up = List.range s.r ∧ s.base ≤ s.r :=
  H2N.exactly_once h

/-- a send that completed successfully has been delivered exactly once; any frame, successful or not,
was delivered at most once -/
theorem c01_success_delivered {s : H2N.St} (h : H2N.Reach s) (k : Nat) :
    (k < s.base → s.up.count k = 1) ∧ s.up.count k ≤ 1 := by
  obtain ⟨hup, hb⟩ := H2N.exactly_once h
  rw [hup, List.count_range]
  constructor
  · intro hk
    have : k < s.r := by omega
    simp [this]
  · split <;> omega

/-- **NCP → host, every reachable state, every window W ≤ 3**: what the host hands to EZSP is exactly
frames 0 … r−1 of what the NCP submitted, once each and in order; the NCP's window never runs ahead of
what the host accepted -/
theorem c01_n2h_exactly_once {W : Nat} (hW : W ≤ 3) {s : N2H.St} (h : N2H.Reach W s) :
    s.up = List.range s.r ∧ s.a ≤ s.r ∧ s.r ≤ s.n :=
  N2H.exactly_once_W (by omega) h

open BV.Ash in
/-- `rxAccept` / `rxReject` of N2H: the host accepts frame index `j` in state `r` iff `j % 8 = r % 8`,
then expects `(r + 1) % 8` -/
theorem c01_bridge_accept (s : Rx) (hopen : s.open_ = true) (r j : Nat) (hr : s.rxSeq = r % 8)
    (reTx : Bool) (a : Nat) (p : List UInt8) :
    (C04.ups (onFrame s (.data (j % 8) reTx a p)).2 = if j % 8 = r % 8 then [p] else []) ∧
    (onFrame s (.data (j % 8) reTx a p)).1.rxSeq = (if j % 8 = r % 8 then (r + 1) % 8 else r % 8) := by
  have h1 := C04.c04_accept_iff s hopen (j % 8) reTx a p
  have h2 : (onFrame s (.data (j % 8) reTx a p)).1.rxSeq =
      (if j % 8 = s.rxSeq then (j % 8 + 1) % 8 else s.rxSeq) := (C04.c04_one_reply s hopen (j % 8) reTx a p).1
  rw [hr] at h1 h2
  refine ⟨h1, ?_⟩
  rw [h2]
  split
  · rename_i hj; rw [hj]; omega
  · rfl

open BV.Ash in
/-- `ackHit` / `ackMiss` of H2N: with TX_K = 1 an ackNum `A` resolves the ack future of the outstanding
frame `base % 8` iff `(A + 7) % 8 = base % 8` -/
theorem c01_bridge_ack (s : Rx) (base A : Nat) (hp : s.pending = [(base % 8, Fut.waiting)]) :
    (handleAck s (A % 8)).pending =
      if (A + 7) % 8 = base % 8 then [(base % 8, Fut.acked)] else [(base % 8, Fut.waiting)] := by
  have e : (A % 8 + 8 - 1) % 8 = (A + 7) % 8 := by omega
  rw [handleAck_eq, e, hp]
  by_cases h : (A + 7) % 8 = base % 8
  · simp [h, setFut, List.lookup]
  · have : ((A + 7) % 8 == base % 8) = false := by simpa using h
    simp [h, List.lookup, this]

open BV.Ash in
/-- cancelling the caller of a send changes no protocol field and no other send -/
theorem c01_cancel_noop (s : Tx) (id : Nat) :
    (step s (.cancel id)).1 = { s with cancelled := id :: s.cancelled } ∧
    (step s (.cancel id)).2 = [.done id .cancelled] := by
  simp [step, step0]

example : ∃ s, H2N.Reach s ∧ s.r = 1 ∧ s.base = 1 := by
  refine ⟨_, .step (.step (.step (.step .init (.sendNew _ rfl)) (.dupD _ [] 0 [] rfl))
    (.rxAccept _ 0 [0] rfl rfl)) (.ackHit _ 1 [] rfl rfl rfl), rfl, rfl⟩

end BV.Props.C01
