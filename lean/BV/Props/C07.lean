/-
C07 — EZSP frame headers and command schemas form a consistent codec in every version.
Model: BV.Codec (generic payload codec over the generated descriptors; three header layouts).
Tables: BV.Gen.Commands, regenerated from bellows/ezsp/v*/commands.py on every run.
-/
import BV.Proofs.CodecLemmas
import BV.Proofs.Keyed
import BV.Gen.Commands
import BV.Proofs.Src.Hdr
namespace BV.Props.C07
open BV.Codec BV.Gen.Commands

/-- payload round trip for every descriptor of the prefix-free fragment and every value, with any bytes
following: decoding the encoding returns exactly the value and leaves exactly the rest -/
theorem c07_de_ser (fuel : Nat) (d : TDesc) (v : Val) (out rest : List UInt8) (hp : d.pf = true)
    (h : ser d v = some out) : de fuel d (out ++ rest) = some (v, rest) :=
  de_ser fuel d v out rest hp h

/-- schema round trip: prefix-free fields followed by at most one tail field (raw bytes, or an
optional field) decode to exactly the values with no bytes left over -/
theorem c07_schema_roundtrip (fuel : Nat) (fs : List TDesc) (vs : List Val) (out : List UInt8)
    (hok : rtOk fs = true) (h : serFields fs vs = some out) (hv : tailVals fs vs) :
    deFields fuel fs out = some (vs, []) := by
  match fs, vs with
  | [], [] => simp [serFields] at h; subst h; simp [deFields]
  | [], _ :: _ | _ :: _, [] => simp [serFields] at h
  | [f], v :: vs =>
    -- the last field: `de_tail`
    simp [serFields, Option.bind_eq_some_iff] at h
    obtain ⟨a, ha, b, hb, rfl⟩ := h
    cases vs with
    | cons _ _ => simp [serFields] at hb
    | nil =>
      simp [serFields] at hb; subst hb
      simp [deFields, de_tail fuel f v a (by simpa [rtOk] using hok) ha (hv a ha)]
  | f :: g :: gs, v :: vs =>
    -- a field before the last is prefix-free: `de_ser`, then the rest of the schema
    simp [serFields, Option.bind_eq_some_iff] at h
    obtain ⟨a, ha, b, hb, rfl⟩ := h
    have hok' : f.pf = true ∧ rtOk (g :: gs) = true := by simpa [rtOk] using hok
    have hv' : tailVals (g :: gs) vs := by
      cases vs with
      | nil => simp [serFields] at hb
      | cons w ws => simpa [tailVals] using hv
    rw [deFields, de_ser fuel f v a b hok'.1 ha]
    simp [c07_schema_roundtrip fuel (g :: gs) vs b hok'.2 hb hv']

/-- header round trip in all three layouts: sequence, frame ID and payload come back unchanged -/
theorem c07_header_roundtrip (h : Hdr) (seq id : Nat) (payload : List UInt8) (hs : seq < 256)
    (hi : id ≤ maxId h) : rxHeader h (txHeader h seq id ++ payload) = some (seq, id, payload) := by
  have e1 : (UInt8.ofNat seq).toNat = seq := UInt8.toNat_ofNat_of_lt' hs
  cases h with
  | v4 | v5 =>   -- the ID is one byte
    have e2 : (UInt8.ofNat id).toNat = id := UInt8.toNat_ofNat_of_lt' (Nat.lt_succ_of_le hi)
    simp [txHeader, rxHeader, e1, e2]
  | v8 =>        -- the ID is two bytes, low then high
    have e2 : (UInt8.ofNat (id % 256)).toNat = id % 256 := UInt8.toNat_ofNat_of_lt' (Nat.mod_lt _ (by decide))
    have e3 : (UInt8.ofNat (id / 256)).toNat = id / 256 :=
      UInt8.toNat_ofNat_of_lt' (Nat.div_lt_of_lt_mul (Nat.lt_succ_of_le hi))
    simp [txHeader, rxHeader, e1, e2, e3, Nat.mod_add_div]

/-- the header layout per version and the literal bytes of each layout -/
theorem c07_tx_layout (seq id : Nat) :
    txHeader (hdrOf 4) seq id = [UInt8.ofNat seq, 0x00, UInt8.ofNat id] ∧
    (∀ v, 5 ≤ v → v ≤ 7 → txHeader (hdrOf v) seq id = [UInt8.ofNat seq, 0x00, 0xFF, 0x00, UInt8.ofNat id]) ∧
    (∀ v, 8 ≤ v → txHeader (hdrOf v) seq id =
        [UInt8.ofNat seq, 0x00, 0x01, UInt8.ofNat (id % 256), UInt8.ofNat (id / 256)]) := by
  refine ⟨rfl, ?_, ?_⟩
  · intro v h1 h2
    have : hdrOf v = .v5 := by unfold hdrOf; split; omega; split; rfl; omega
    rw [this]; rfl
  · intro v h1
    have : hdrOf v = .v8 := by unfold hdrOf; split; omega; split; omega; rfl
    rw [this]; rfl

/-- **every generated table** (all versions): frame IDs are unique, names are unique, every ID fits the
version's header, every tx and rx schema lowers to valid descriptors, greedy / optional fields occur
only in last position of an rx schema, argument names are unique -/
theorem c07_tables_ok : ∀ v ∈ versions, tableOk (maxId (hdrOf v)) (cmds v) = true := by
  have h : ∀ v ∈ versions, tableOkFast (maxId (hdrOf v)) (cmds v) = true := by decide +kernel
  exact fun v hv => tableOk_of_fast (h v hv)

/-- the handler class registered for each version is that version's own, and `hdrOf` agrees with the
class hierarchy (v4: EZSPv4 layout; v5–v7: EZSPv5 layout; v8+: EZSPv8 layout) -/
theorem c07_by_version : byVersion = versions.map fun v => (v, v) := by decide +kernel

/-- how many (version, command) pairs the schema round-trip theorem covers: all but the rows whose rx
schema ends in a greedy list (`readCounters`, `readAndClearCounters`), nests an optional field in a trailing struct
(`getMulticastTableEntry`), contains the one `requires`-conditioned field (`getTokenData`) or the struct with the
receive-side padding quirk (`EmberKeyStruct` in `getKey` / `getKeyTableEntry`); those rows are covered by the
differential check only -/
theorem c07_rx_coverage :
    (versions.map fun v => ((cmds v).filter fun c => !rtOk c.rxT).length) =
      [5, 5, 5, 5, 5, 6, 6, 6, 6, 4, 3] := by
  decide +kernel

/-- **receive path, every version, every command, every value tuple**: for a command `c` of version `v`
whose rx schema is of the covered shape, the frame `header(seq, c.id) ++ encoding(vs)` is decoded by
the receive path as command `c` with exactly the values `vs` and no bytes left over -/
theorem c07_rx_roundtrip_all (v : Nat) (hv : v ∈ versions) (c : Cmd) (hc : c ∈ cmds v)
    (seq : Nat) (hs : seq < 256) (vs : List Val) (body : List UInt8)
    (hok : rtOk c.rxT = true) (hser : serFields c.rxT vs = some body) (htv : tailVals c.rxT vs) :
    rxFrame v (cmds v) (txHeader (hdrOf v) seq c.id ++ body) = .ok seq c.id c.name vs [] := by
  obtain ⟨hid, hmax⟩ := tableOk_ids (c07_tables_ok v hv)
  unfold rxFrame
  rw [c07_header_roundtrip _ _ _ _ hs (hmax c hc)]
  have hfind : findById (cmds v) c.id = some c := (List.find?_key_eq_some Cmd.id hid).mpr ⟨hc, rfl⟩
  simp only [hfind]
  rw [c07_schema_roundtrip _ c.rxT vs body hok hser htv]

/-- the frame of a call = header, then the arguments serialised in declared order -/
theorem c07_tx_frame (v : Nat) (cs : List Cmd) (seq : Nat) (c : Cmd) (vs : List Val) (body : List UInt8)
    (hf : findByName cs c.name = some c) (hser : serFields c.txT vs = some body) :
    txFrame v cs seq c.name vs = some (txHeader (hdrOf v) seq c.id ++ body) := by
  simp [txFrame, hf, hser]

/-- `serialize_dict` takes for each key the keyword value, or else the positional one -/
theorem resolve_go (keys : List String) (vals args : List Val) (kw : List (String × Val)) (i : Nat)
    (h : keys.length = vals.length)
    (hl : ∀ j (hj : j < keys.length), (kw.lookup keys[j]).or args[i + j]? = some (vals[j]'(h ▸ hj))) :
    resolveArgs.go args kw i keys = some vals := by
  induction keys generalizing vals i with
  | nil =>
    cases vals with
    | nil => simp [resolveArgs.go]
    | cons _ _ => simp at h
  | cons k ks ih =>
    cases vals with
    | nil => simp at h
    | cons a as =>
      have h0 := hl 0 (by simp)
      simp only [List.getElem_cons_zero, Nat.add_zero] at h0
      have := ih as (i + 1) (by simpa using h) (fun j hj => by
        have := hl (j + 1) (by simp; omega)
        simpa [Nat.add_assoc, Nat.add_comm 1 j] using this)
      cases hk : kw.lookup k with
      | none | some _ => simp [hk] at h0; simp [resolveArgs.go, hk, h0, this]

/-- positional and keyword forms are equivalent: all-positional resolves to the values as given -/
theorem c07_positional (keys : List String) (args : List Val) (h : keys.length = args.length) :
    resolveArgs keys args [] = some args :=
  resolve_go keys args args [] 0 h fun j hj => by simp [h ▸ hj]

/-- … and all-keyword (in any order, here as an association list whose lookup gives each key its
value) resolves to the same values in declared order -/
theorem c07_pos_kw_equiv (keys : List String) (vals : List Val) (kw : List (String × Val))
    (h : keys.length = vals.length)
    (hl : ∀ j (hj : j < keys.length), kw.lookup keys[j] = some (vals[j]'(h ▸ hj))) :
    resolveArgs keys [] kw = resolveArgs keys vals [] := by
  rw [c07_positional keys vals h]
  exact resolve_go keys vals [] kw 0 h fun j hj => by simp [hl j hj]

example : rtOk [.uint 1, .lvbytes 1] = true ∧
    serFields [.uint 1, .lvbytes 1] [.num 7, .bytes [1, 2]] = some [7, 2, 1, 2] := by
  simp [rtOk, tailOk, TDesc.pf, serFields, ser, leBytes]


/-! ### the frame headers over the definitions generated from bellows/ezsp/v4, v5, v8 (BV/Gen/SrcHdrV4/5/8.lean)

`_ezsp_frame_tx` / `_ezsp_frame_rx` of the three classes that define them are translated from the syntax tree on every run and
proved equal to `txHeader` / `rxHeader` (BV/Proofs/Src/Hdr.lean); which class serves which protocol version is reflection data. -/
section Src
open BV.Py BV.Proofs.Src.Hdr

/-- transmit headers, source level: the translated code writes exactly the model's header (sequence number - masked to a byte by
the legacy class only -, frame control, and the frame ID in the width of its format) -/
theorem c07_src_tx_headers (h : Handler) (name : String) (id : Nat) (hl : h.cmds.lookup name = some id) (hs : h.seq < 256) :
    (id < 256 → BV.Src.HdrV4.frame_tx name h = (.ok (txHeader .v4 (h.seq % 256) id), h)) ∧
    (id < 256 → BV.Src.HdrV5.frame_tx name h = (.ok (txHeader .v5 h.seq id), h)) ∧
    (id < 65536 → BV.Src.HdrV8.frame_tx name h = (.ok (txHeader .v8 h.seq id), h)) :=
  ⟨fun hid => v4_tx h name id hl hid, fun hid => v5_tx h name id hl hid hs, fun hid => v8_tx h name id hl hid hs⟩

/-- receive headers, source level: for every byte string the translated parser returns the model's (sequence, frame ID, payload),
and raises exactly where the model has no header to read -/
theorem c07_src_rx_headers (h : Handler) (d : List UInt8) :
    (BV.Src.HdrV4.frame_rx d h).1.toOption = rxHeader .v4 d ∧
    (BV.Src.HdrV5.frame_rx d h).1.toOption = rxHeader .v5 d ∧
    (BV.Src.HdrV8.frame_rx d h).1.toOption = rxHeader .v8 d :=
  ⟨(v4_rx h d).1, (v5_rx h d).1, (v8_rx h d).1⟩

/-- the header round trip over the generated code: what `_ezsp_frame_rx` reads back from `_ezsp_frame_tx`'s bytes followed by any
payload is the sequence number, the frame ID and the payload (all three formats) -/
theorem c07_src_header_roundtrip (h : Handler) (name : String) (id : Nat) (p : List UInt8) (hl : h.cmds.lookup name = some id)
    (hs : h.seq < 256) (hid : id < 256) :
    (∀ b, BV.Src.HdrV4.frame_tx name h = (.ok b, h) → (BV.Src.HdrV4.frame_rx (b ++ p) h).1 = .ok (h.seq, id, p)) ∧
    (∀ b, BV.Src.HdrV5.frame_tx name h = (.ok b, h) → (BV.Src.HdrV5.frame_rx (b ++ p) h).1 = .ok (h.seq, id, p)) ∧
    (∀ b, BV.Src.HdrV8.frame_tx name h = (.ok b, h) → (BV.Src.HdrV8.frame_rx (b ++ p) h).1 = .ok (h.seq, id, p)) := by
  -- transmit writes the model's header, receive parses like the model: the round trip is `c07_header_roundtrip`
  have ok {ε} {r : Except ε (Nat × Nat × List UInt8)} {x} (e : r.toOption = some x) : r = .ok x := by
    cases r <;> simp [Except.toOption] at e
    rw [e]
  refine ⟨fun b hb => ?_, fun b hb => ?_, fun b hb => ?_⟩
  · rw [v4_tx h name id hl hid, Nat.mod_eq_of_lt hs] at hb
    cases hb
    exact ok ((v4_rx h _).1.trans (c07_header_roundtrip .v4 _ _ _ hs (Nat.le_of_lt_succ hid)))
  · rw [v5_tx h name id hl hid hs] at hb
    cases hb
    exact ok ((v5_rx h _).1.trans (c07_header_roundtrip .v5 _ _ _ hs (Nat.le_of_lt_succ hid)))
  · rw [v8_tx h name id hl (by omega) hs] at hb
    cases hb
    exact ok ((v8_rx h _).1.trans (c07_header_roundtrip .v8 _ _ _ hs (show id ≤ 65535 by omega)))

/-- which class serves which version (reflection) is the model's `hdrOf` -/
theorem c07_src_header_classes :
    ∀ r ∈ BV.Gen.Accessors.definedBy, (r.2.1 = "_ezsp_frame_tx" ∨ r.2.1 = "_ezsp_frame_rx") → r.2.2 = hdrClass (hdrOf r.1) :=
  header_classes

example : BV.Src.HdrV8.frame_tx "nop" { seq := 7, cmds := [("nop", 5)] } = (.ok [7, 0, 1, 5, 0], { seq := 7, cmds := [("nop", 5)] }) := by
  decide +kernel

end Src

end BV.Props.C07
