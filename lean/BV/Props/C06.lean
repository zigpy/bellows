/-
C06 — each EZSP command gets its own response; one in flight; keep-alives go first.
Model: BV.Cmd (ProtocolHandler.command / __call__ at settled loop states, repaired code: the
`_awaiting` entry is removed when its call ends).  Then the callback registry (BV.Registry), and the same clauses over the
definitions generated from `command`, `_ezsp_frame` and `_get_command_priority`.
-/
import BV.Model.Ezsp.Cmd
import BV.Model.Ezsp.Registry
import BV.Proofs.Src.Cmd
import BV.Gen.Commands
namespace BV.Props.C06
open BV.Cmd BV.Gen.Priority

/-- invariant of settled states (repaired code): `_awaiting` holds at most the live holder's entry, and nothing else; waiters are
ordered by priority; nobody waits behind a free slot -/
structure Inv (s : St) : Prop where
  pop : s.popOnExit = true
  entries : ∀ e ∈ s.awaiting, ∃ h, s.holder = some h ∧ e = ⟨h.seqNo, h.cmdId, h.caller, .live⟩
  sorted : s.waiters.Pairwise (fun a b => a.prio ≥ b.prio)
  queued : s.holder = none → s.waiters = []

theorem inv_init (seq0 : Nat) : Inv { seq := seq0 } :=
  ⟨rfl, by intro e he; simp at he, by simp, by intro; rfl⟩

theorem setEntry_mem (l : List Entry) (e x : Entry) (hx : x ∈ setEntry l e) : x = e ∨ x ∈ l := by
  unfold setEntry at hx
  split at hx
  · obtain ⟨y, hy, rfl⟩ := List.mem_map.mp hx
    split
    · exact Or.inl rfl
    · exact Or.inr hy
  · rcases List.mem_append.mp hx with h | h
    · exact Or.inr h
    · simp at h; exact Or.inl h

theorem Inv.idle {s : St} (hi : Inv s) (hn : s.holder = none) : s.awaiting = [] :=
  List.eq_nil_iff_forall_not_mem.mpr fun e he => by
    obtain ⟨h, hh, -⟩ := hi.entries e he
    rw [hn] at hh; cases hh

theorem Inv.at {s : St} (hi : Inv s) (t : Rat) : Inv { s with now := t } := ⟨hi.pop, hi.entries, hi.sorted, hi.queued⟩

theorem Inv.holder_upd {s : St} (hi : Inv s) {h h2 : Holder} (hh : s.holder = some h) (e1 : h2.seqNo = h.seqNo)
    (e2 : h2.cmdId = h.cmdId) (e3 : h2.caller = h.caller) : Inv { s with holder := some h2 } := by
  refine ⟨hi.pop, fun x hx => ?_, hi.sorted, nofun⟩
  obtain ⟨h', hh', rfl⟩ := hi.entries x hx
  cases hh.symm.trans hh'
  exact ⟨h2, rfl, by rw [e1, e2, e3]⟩

theorem start_inv (s : St) (c cmd : Nat) (hpop : s.popOnExit = true) (haw : s.awaiting = [])
    (hs : s.waiters.Pairwise (fun a b => a.prio ≥ b.prio)) : Inv (start s c cmd).1 :=
  ⟨hpop, fun e he => ⟨_, rfl, by simpa [start, haw, setEntry] using he⟩, hs, nofun⟩

/-- first-come first-served within a class, classes by priority: a new waiter goes behind every waiter
of greater or equal priority and ahead of every waiter of smaller priority; nobody else moves -/
theorem c06_priority_fifo (ws : List Waiter) (w : Waiter) (h : ws.Pairwise (fun a b => a.prio ≥ b.prio)) :
    ∃ pre post, ws = pre ++ post ∧ insertWaiter ws w = pre ++ [w] ++ post ∧
      (∀ x ∈ pre, x.prio ≥ w.prio) ∧ (∀ x ∈ post, x.prio < w.prio) := by
  refine ⟨ws.takeWhile (fun x => x.prio ≥ w.prio), ws.dropWhile (fun x => x.prio ≥ w.prio),
    (List.takeWhile_append_dropWhile).symm, rfl, ?_, ?_⟩
  · intro x hx
    have := List.all_eq_true.mp (List.all_takeWhile (p := fun x : Waiter => decide (x.prio ≥ w.prio)) (l := ws)) x hx
    simpa using this
  · intro x hx
    -- the first element of the dropped part fails the test; the rest is below it by sortedness
    induction ws with
    | nil => simp at hx
    | cons y ys ih =>
      have hy := List.pairwise_cons.mp h
      by_cases hp : y.prio ≥ w.prio
      · simp only [List.dropWhile_cons, hp, decide_true, ↓reduceIte] at hx
        exact ih hy.2 hx
      · have hp' : ¬ (decide (y.prio ≥ w.prio) = true) := by simpa using hp
        simp only [List.dropWhile_cons, hp'] at hx
        rcases List.mem_cons.mp hx with rfl | hx
        · omega
        · have := hy.1 x hx; omega

theorem insertWaiter_sorted (ws : List Waiter) (w : Waiter) (h : ws.Pairwise (fun a b => a.prio ≥ b.prio)) :
    (insertWaiter ws w).Pairwise (fun a b => a.prio ≥ b.prio) := by
  obtain ⟨pre, post, rfl, e, hpre, hpost⟩ := c06_priority_fifo ws w h
  obtain ⟨h1, h2, h3⟩ := List.pairwise_append.mp h
  rw [e, List.append_assoc]
  refine List.pairwise_append.mpr ⟨h1, List.pairwise_cons.mpr ⟨fun b hb => Int.le_of_lt (hpost b hb), h2⟩, fun a ha b hb => ?_⟩
  rcases List.mem_cons.mp hb with rfl | hb
  · exact hpre a ha
  · exact h3 a ha b hb

/-- the priority classes of the generated table: keep-alive and counter reads before ordinary commands
before packet-send commands -/
theorem c06_priority_classes :
    nonZero = [("getValue", 999), ("nop", 999), ("readAndClearCounters", 999), ("readCounters", 999),
               ("sendBroadcast", -1), ("sendMulticast", -1), ("sendUnicast", -1),
               ("setExtendedTimeout", -1), ("setSourceRoute", -1)] ∧ maxCommandConcurrency = 1 := by
  decide +kernel

theorem endCall_awaiting (s : St) (h : Holder) (f : EFut) (hi : Inv s) (hh : s.holder = some h) : (endCall s h f).awaiting = [] := by
  unfold endCall
  simp only [hi.pop, ↓reduceIte]
  apply List.filter_eq_nil_iff.mpr
  intro e he
  obtain ⟨h', hh', rfl⟩ := hi.entries e he
  rw [hh] at hh'; cases hh'
  simp

theorem release_inv (s : St) (hpop : s.popOnExit = true) (haw : s.awaiting = [])
    (hs : s.waiters.Pairwise (fun a b => a.prio ≥ b.prio)) : Inv (release s).1 := by
  unfold release
  cases hw : s.waiters with
  | nil => exact ⟨hpop, by simp [haw], by simp [hw], fun _ => hw⟩
  | cons w ws => exact start_inv { s with waiters := ws } _ _ hpop haw (List.pairwise_cons.mp (hw ▸ hs)).2

theorem finish_inv (s : St) (h : Holder) (f : EFut) (r : Res) (hi : Inv s) (hh : s.holder = some h) :
    Inv (finish s h f r).1 := by
  unfold finish
  -- `endCall` touches only the table and the holder
  exact release_inv _ hi.pop (endCall_awaiting s h f hi hh) hi.sorted

/-- the released slot goes to the first waiter — by the ordering invariant, the waiting call with the
greatest priority, oldest first; its request is sent at once with the next sequence number -/
theorem c06_next_holder (s : St) (h : Holder) (f : EFut) (r : Res) (hi : Inv s) (hh : s.holder = some h)
    (w : Waiter) (ws : List Waiter) (hw : s.waiters = w :: ws) :
    (finish s h f r).2 = [.done h.caller r, .sent s.seq w.cmdId] ∧
    (finish s h f r).1.holder = some ⟨w.caller, s.seq, w.cmdId, true, .waiting, 0⟩ ∧
    (finish s h f r).1.seq = (s.seq + 1) % 256 ∧ (finish s h f r).1.waiters = ws := by
  have e3 : (endCall s h f).waiters = w :: ws := hw
  have e4 : (endCall s h f).seq = s.seq := rfl
  simp [finish, release, e3, start, e4]

/-- the last stage of `onOk`, common to the invalid-command answer and the reply proper: the outcome `fut` / `r` reaches the holder
if the popped entry `e` is its live one -/
def deliver (s1 : St) (e : Entry) (seqNo : Nat) (fut : HFut) (r : Res) : St × List Out :=
  match s1.holder, e.fut with
  | some h, .live =>
    if h.caller = e.owner ∧ h.seqNo = seqNo ∧ h.fut = .waiting then
      if h.sending then ({ s1 with holder := some { h with fut := fut } }, [])
      else finish s1 h .cancelled r
    else (s1, [])
  | _, _ => (s1, [])

theorem onOk_eq (s : St) (seqNo fid : Nat) (inv : Bool) (tag : Nat) :
    onOk s seqNo fid inv tag =
      match s.awaiting.find? (·.seqNo == seqNo) with
      | none => (s, [.callback fid tag])
      | some e =>
        if inv then deliver { s with awaiting := s.awaiting.filter (·.seqNo != seqNo) } e seqNo .invalid .invalidCommand
        else if e.cmdId ≠ fid then ({ s with awaiting := s.awaiting.filter (·.seqNo != seqNo) }, [.rxRaised])
        else deliver { s with awaiting := s.awaiting.filter (·.seqNo != seqNo) } e seqNo (.result tag) (.ok tag) := by
  unfold onOk deliver
  cases s.awaiting.find? (·.seqNo == seqNo) with
  | none => rfl
  | some e => cases inv <;> rfl

theorem release_out (s : St) : ∀ o ∈ (release s).2, ∃ a b, o = .sent a b := by
  unfold release
  split <;> simp [start]

theorem deliver_out (s1 : St) (e : Entry) (seqNo : Nat) (fut : HFut) (r : Res) :
    (∀ o ∈ (deliver s1 e seqNo fut r).2, ∃ a b, o = .sent a b) ∨
    ∃ h, s1.holder = some h ∧ h.caller = e.owner ∧ h.seqNo = seqNo ∧ h.sending = false ∧
      ∀ o ∈ (deliver s1 e seqNo fut r).2, o = .done h.caller r ∨ ∃ a b, o = .sent a b := by
  unfold deliver
  split
  · rename_i h hh _
    split
    · rename_i hc
      split
      · exact .inl (by simp)
      · rename_i hs
        refine .inr ⟨h, hh, hc.1, hc.2.1, by simpa using hs, ?_⟩
        intro o ho
        rcases List.mem_cons.mp ho with rfl | ho
        · exact .inl rfl
        · exact .inr (release_out _ o ho)
    · exact .inl (by simp)
  · exact .inl (by simp)

theorem deliver_done {s1 : St} {e : Entry} {seqNo : Nat} {fut : HFut} {r r' : Res} {c : Nat}
    (hm : Out.done c r' ∈ (deliver s1 e seqNo fut r).2) : ∃ h, s1.holder = some h ∧ h.caller = c ∧ h.sending = false ∧ r' = r := by
  rcases deliver_out s1 e seqNo fut r with ho | ⟨h, hh, -, -, hs, ho⟩
  · obtain ⟨a, b, hab⟩ := ho _ hm; cases hab
  · rcases ho _ hm with hab | ⟨a, b, hab⟩
    · cases hab; exact ⟨h, hh, rfl, hs, rfl⟩
    · cases hab

theorem deliver_no_callback {s1 : St} {e : Entry} {seqNo : Nat} {fut : HFut} {r : Res} {a b : Nat} :
    Out.callback a b ∉ (deliver s1 e seqNo fut r).2 := by
  intro hm
  rcases deliver_out s1 e seqNo fut r with ho | ⟨h, -, -, -, -, ho⟩
  · obtain ⟨_, _, hab⟩ := ho _ hm; cases hab
  · rcases ho _ hm with hab | ⟨_, _, hab⟩ <;> cases hab

theorem deliver_inv (s1 : St) (e : Entry) (seqNo : Nat) (fut : HFut) (r : Res) (hi : Inv s1) : Inv (deliver s1 e seqNo fut r).1 := by
  unfold deliver
  split
  · rename_i h hh _
    split
    · split
      · exact hi.holder_upd hh rfl rfl rfl
      · exact finish_inv _ h _ _ hi hh
    · exact hi
  · exact hi

theorem onOk_inv (s : St) (seqNo fid : Nat) (inv : Bool) (tag : Nat) (hi : Inv s) :
    Inv (onOk s seqNo fid inv tag).1 := by
  have hs1 : Inv { s with awaiting := s.awaiting.filter (·.seqNo != seqNo) } :=
    ⟨hi.pop, fun x hx => hi.entries x (List.mem_filter.mp hx).1, hi.sorted, hi.queued⟩
  rw [onOk_eq]
  split
  · exact hi
  · split
    · exact deliver_inv _ _ _ _ _ hs1
    · split
      · exact hs1
      · exact deliver_inv _ _ _ _ _ hs1

theorem step_inv (s : St) (i : In) (hi : Inv s) : Inv (step s i).1 := by
  cases i with
  | call c cmd prio =>
    simp only [step]
    split
    · rename_i hb
      exact ⟨hi.pop, hi.entries, insertWaiter_sorted _ _ hi.sorted, fun hn => by simp [show s.holder = none from hn, hi.queued hn] at hb⟩
    · rename_i hb
      have hn : s.holder = none := by
        cases hh : s.holder with
        | none => rfl
        | some _ => simp [hh] at hb
      exact start_inv s c cmd hi.pop (hi.idle hn) hi.sorted
  | frame f =>
    cases f with
    | ok seqNo fid inv tag => exact onOk_inv s seqNo fid inv tag hi
    | _ => exact hi
  | wait d => exact hi.at _
  | sendDone ok =>
    simp only [step]
    split
    · rename_i h hh
      split
      · exact hi
      · split
        · exact finish_inv _ h _ _ hi hh
        · split
          · exact finish_inv _ h _ _ hi hh
          · exact finish_inv _ h _ _ hi hh
          · exact hi.holder_upd hh rfl rfl rfl
    · exact hi
  | timeout =>
    simp only [step]
    split
    · rename_i h hh
      split
      · exact hi
      · exact finish_inv _ h _ _ (hi.at _) hh
    · exact hi
  | cancel c =>
    simp only [step]
    split
    · rename_i h hh
      split
      · exact finish_inv _ h _ _ hi hh
      · split
        · exact ⟨hi.pop, hi.entries, hi.sorted.sublist List.filter_sublist, fun hn => by simp [show s.holder = none from hn] at hh⟩
        · exact hi
    · exact hi

/-- **every event list**: the invariant holds in every settled state reachable from the start -/
theorem c06_invariant (seq0 : Nat) (is : List In) : Inv (run { seq := seq0 } is).1 := by
  suffices ∀ s, Inv s → Inv (run s is).1 from this _ (inv_init seq0)
  induction is with
  | nil => intro s h; exact h
  | cons i is ih => intro s h; exact ih _ (step_inv s i h)

/-- **own response only**: a call returns `tag` in a frame event only if that frame carried the sequence
number written in its own request and its own frame ID, while it was the (single) call in flight -/
theorem c06_own_response (s : St) (hi : Inv s) (f : Frame) (c tag : Nat)
    (hd : Out.done c (.ok tag) ∈ (step s (.frame f)).2) :
    ∃ h, s.holder = some h ∧ h.caller = c ∧ h.sending = false ∧ f = .ok h.seqNo h.cmdId false tag := by
  cases f with
  | short => simp [step] at hd
  | unknown => simp [step] at hd
  | undecodable => simp [step] at hd
  | ok seqNo fid inv tg =>
    simp only [step, onOk_eq] at hd
    cases hf : s.awaiting.find? (·.seqNo == seqNo) with
    | none => simp [hf] at hd
    | some e =>
      obtain ⟨h, hh, rfl⟩ := hi.entries e (List.mem_of_find?_eq_some hf)
      have hseq : h.seqNo = seqNo := by simpa using List.find?_some hf
      simp only [hf] at hd
      -- only `deliver` with an `ok` result can emit it, and only for the holder
      split at hd
      · obtain ⟨-, -, -, -, hr⟩ := deliver_done hd; cases hr
      · split at hd
        · simp at hd
        · rename_i hinv hid
          obtain ⟨h', hh', hc, hs, hr⟩ := deliver_done hd
          cases hr
          cases hh'.symm.trans hh
          exact ⟨h, hh, hc, hs, by rw [hseq, Decidable.not_not.mp hid, (Bool.not_eq_true _).mp hinv]⟩

/-- **timeout**: a call whose request was handed over at time `t` and that receives no reply raises
TimeoutError exactly at `t + EZSP_CMD_TIMEOUT` -/
theorem c06_timeout (s : St) (h : Holder) (hh : s.holder = some h) (hs : h.sending = true) (hw : h.fut = .waiting) :
    (step s (.sendDone true)).1.holder = some { h with sending := false, deadline := s.now + cmdTimeout } ∧
    ∀ s' h', s'.holder = some h' → h'.sending = false →
      (step s' .timeout).2.head? = some (.done h'.caller .timeout) ∧
      ∀ hi : Inv s', (step s' .timeout).1.now = h'.deadline ∨ (step s' .timeout).1.holder.isSome := by
  constructor
  · simp [step, hh, hs, hw]
  · intro s' h' hh' hs'
    simp only [step, hh', hs', Bool.false_eq_true, ↓reduceIte, finish, List.head?_cons, true_and]
    intro _
    unfold release
    split
    · exact Or.inl rfl
    · exact Or.inr (by simp [start])

/-- **one in flight**: a request is handed to the gateway only when nobody holds the slot -/
theorem c06_one_in_flight (s : St) (h : Holder) (hh : s.holder = some h) (c cmd : Nat) (p : Int) :
    (step s (.call c cmd p)).2 = [] ∧ (step s (.call c cmd p)).1.holder = some h := by
  simp [step, hh]

/-- **sequence numbers** advance by one modulo 256 with every request -/
theorem c06_seq_mod_256 (s : St) (c cmd : Nat) :
    (start s c cmd).2 = [.sent s.seq cmd] ∧ (start s c cmd).1.seq = (s.seq + 1) % 256 := by
  simp [start]

/-- **unsolicited frames**: a decodable known frame whose sequence number no call in flight owns is
handed to the callbacks exactly once and touches nothing else (late, duplicate and foreign replies are
such frames: they never complete a call) -/
theorem c06_unsolicited_once (s : St) (hi : Inv s) (seqNo fid : Nat) (inv : Bool) (tag : Nat)
    (hno : ∀ h, s.holder = some h → h.seqNo ≠ seqNo ∨ s.awaiting = []) :
    step s (.frame (.ok seqNo fid inv tag)) = (s, [.callback fid tag]) := by
  simp only [step, onOk]
  have : s.awaiting.find? (·.seqNo == seqNo) = none := by
    apply List.find?_eq_none.mpr
    intro e he
    obtain ⟨h, hh, rfl⟩ := hi.entries e he
    rcases hno h hh with h1 | h1
    · simpa using h1
    · rw [h1] at he; simp at he
  rw [this]

/-- four callers of mixed priority, then the first one's reply: it completes caller 1, and the slot goes to caller 2 - priority
999 and first of its class - not to caller 3, who asked before caller 4 -/
example : (run {} [.call 1 82 0, .call 2 170 999, .call 3 52 (-1), .call 4 5 999, .sendDone true,
    .frame (.ok 0 82 false 7)]).2.getLast? = some [.done 1 (.ok 7), .sent 1 170] := by decide +kernel

section Registry
open BV.Registry

theorem probe_spec (taken : List Int) (fuel : Nat) (h r : Int) (hp : probe taken fuel h = some r) :
    r ∉ taken ∧ h ≤ r ∧ ∀ j, h ≤ j → j < r → j ∈ taken := by
  induction fuel generalizing h with
  | zero => simp [probe] at hp
  | succ n ih =>
    simp only [probe] at hp
    split at hp
    · rename_i hc
      obtain ⟨a, b, c⟩ := ih (h + 1) hp
      refine ⟨a, by omega, fun j hj hjr => ?_⟩
      by_cases hjh : j = h
      · subst hjh; simpa using hc
      · exact c j (by omega) hjr
    · rename_i hc
      cases hp
      exact ⟨by simpa using hc, Int.le_refl _, fun j a b => by omega⟩

theorem probe_congr (a b : List Int) (fuel : Nat) (h : Int) (hab : ∀ j, h ≤ j → (j ∈ a ↔ j ∈ b)) :
    probe a fuel h = probe b fuel h := by
  induction fuel generalizing h with
  | zero => rfl
  | succ n ih =>
    simp only [probe]
    have : a.contains h = b.contains h := by
      have := hab h (Int.le_refl _)
      by_cases ha : h ∈ a
      · have hb := this.mp ha; simp [ha, hb]
      · have hb : h ∉ b := fun x => ha (this.mpr x); simp [ha, hb]
    rw [this, ih (h + 1) (fun j hj => hab j (by omega))]

theorem probe_total (taken : List Int) (h : Int) (fuel : Nat) (hf : taken.length < fuel) :
    (probe taken fuel h).isSome := by
  induction fuel generalizing taken h with
  | zero => omega
  | succ n ih =>
    simp only [probe]
    split
    · rename_i hc
      have hmem : h ∈ taken := by simpa using hc
      rw [probe_congr taken (taken.erase h) n (h + 1) (fun j hj => by
        have : j ≠ h := by omega
        exact (List.mem_erase_of_ne this).symm)]
      apply ih
      have := List.length_erase_of_mem hmem
      have := List.length_pos_of_mem hmem
      omega
    · simp

/-- registering never overwrites: the id handed out is not in use, the new registration goes last and
every earlier registration stays exactly as it was; the probe never runs out of fuel -/
theorem c06_registry_add (r : Reg) (cb : Nat) (h : Int) :
    ∃ id, Registry.step r (.add cb h) = ({ cbs := r.cbs ++ [(id, cb)] }, .added id) ∧ id ∉ ids r ∧ h ≤ id := by
  have ht := probe_total (ids r) h (r.cbs.length + 1) (by simp [ids])
  obtain ⟨id, hid⟩ := Option.isSome_iff_exists.mp ht
  obtain ⟨a, b, -⟩ := probe_spec _ _ _ _ hid
  exact ⟨id, by simp [Registry.step, hid], a, b⟩

theorem ids_nodup_step (r : Reg) (hn : (ids r).Nodup) (o : Op) : (ids (Registry.step r o).1).Nodup := by
  cases o with
  | add cb h =>
    obtain ⟨id, hs, hfresh, -⟩ := c06_registry_add r cb h
    rw [hs, ids, List.map_append]
    exact List.nodup_snoc hn hfresh
  | remove id =>
    simp only [Registry.step]
    split
    · simp only [ids]
      exact (List.filter_sublist.map _).nodup hn
    · exact hn
  | deliver _ => exact hn

/-- **no two live registrations ever share an id**, for every history of add / remove / deliver -/
theorem c06_registry_inv (r : Reg) (hn : (ids r).Nodup) (ops : List Op) : (ids (Registry.run r ops).1).Nodup := by
  induction ops generalizing r with
  | nil => exact hn
  | cons o os ih =>
    simp only [Registry.run]
    exact ih _ (ids_nodup_step r hn o)

/-- removing a registration by its id takes out exactly that registration: its callable is returned,
every other registration stays, in order; an unknown id is a `KeyError` and changes nothing -/
theorem c06_registry_remove (r : Reg) (hn : (ids r).Nodup) (id : Int) :
    (∀ cb, (id, cb) ∈ r.cbs →
        Registry.step r (.remove id) = ({ cbs := r.cbs.filter (·.1 != id) }, .removed cb) ∧
        (∀ p ∈ r.cbs, p.1 ≠ id → p ∈ (Registry.step r (.remove id)).1.cbs) ∧
        (∀ p ∈ (Registry.step r (.remove id)).1.cbs, p ∈ r.cbs ∧ p.1 ≠ id)) ∧
    (id ∉ ids r → Registry.step r (.remove id) = (r, .keyError)) := by
  constructor
  · intro cb hmem
    have hl : r.cbs.lookup id = some cb := List.lookup_eq_some_of_mem hn hmem
    simp only [Registry.step, hl]
    refine ⟨trivial, ?_, ?_⟩
    · intro p hp hne; simp [List.mem_filter, hp, hne]
    · intro p hp
      obtain ⟨h1, h2⟩ := List.mem_filter.mp hp
      exact ⟨h1, by simpa using h2⟩
  · intro hnot
    have : r.cbs.lookup id = none :=
      List.lookup_eq_none_iff.mpr fun p hp => by simpa using fun h => hnot (List.mem_map.mpr ⟨p, hp, h.symm⟩)
    simp [Registry.step, this]

/-- an unsolicited frame is handed to every live registration exactly once, in registration order,
whether or not a handler raises, and leaves the registry as it is -/
theorem c06_registry_fanout (r : Reg) (raising : List Nat) :
    Registry.step r (.deliver raising) = (r, .called (r.cbs.map (·.2))) := rfl

example : (Registry.run {} [.add 7 100, .add 8 100, .add 9 101, .remove 100, .add 5 100, .deliver [8]]).2 =
    [.added 100, .added 101, .added 102, .removed 7, .added 100, .called [8, 9, 5]] := by decide

end Registry

/-! The same clauses over the definitions generated from `ProtocolHandler.command`, `_ezsp_frame` and `_get_command_priority`
(BV/Gen/SrcCmd.lean), run against a script of what the environment does at the three await points (BV/Py/CmdEnv.lean). -/
section Src
open BV.Py BV.Codec BV.Src.Cmd BV.Proofs.Src.Cmd

/-- **no entry is left behind** (source level; the `finally` block of the repaired `command`): for every script - replies, strays,
duplicates, no reply; a send failure; the timeout; cancellation at any of the three await points; a script that does not fit -
every entry of `_awaiting` after the call was there before it, none holds a future of this call, and the table stays
well-formed -/
theorem c06_src_no_entry_left (s : Proto) (name : String) (args : Vals) (kwargs : KwVals) (hw : WF s) :
    (∀ e ∈ (command name args kwargs s).2.awaiting, e ∈ s.awaiting ∧ e.2.2 < s.futs.length) ∧ WF (command name args kwargs s).2 := by
  obtain ⟨h1, h2, -, -⟩ := command_sub s name args kwargs hw
  exact ⟨fun e he => ⟨h1 e he, hw e (h1 e he)⟩, h2⟩

/-- **the slot is given back exactly once, last** (source level): entered ⇒ entry, events that are no semaphore events, one release;
not entered ⇒ no event and no release -/
theorem c06_src_release_once (s : Proto) (name : String) (args : Vals) (kwargs : KwVals) (hw : WF s) :
    ((∀ rest, s.script ≠ .acquire true :: rest) → (command name args kwargs s).2.trace = s.trace) ∧
    (∀ rest, s.script = .acquire true :: rest →
      ∃ t, (command name args kwargs s).2.trace = s.trace ++ [.acquire (prioOf name)] ++ t ++ [.release] ∧ Quiet t) :=
  command_trace s name args kwargs hw

/-- **the priority asked for** (source level) is the reflected table `BV.Gen.Priority.nonZero` that `c06_priority_classes` is
about, for every command name -/
theorem c06_src_priority (name : String) (s : Proto) :
    get_command_priority name s = (.ok ((BV.Gen.Priority.nonZero.lookup name).getD 0), s) :=
  get_command_priority_eq name s

/-- **register, then send, one step of the counter** (source level): the request carries the handler's sequence number in the
version's header layout, the command's frame ID and the arguments in declared order; it is handed over once, right after the entry;
the counter ends one further modulo 256 however the call ends -/
theorem c06_src_request (s : Proto) (name : String) (args : Vals) (kwargs : KwVals) (c : Cmd) (b : List UInt8)
    (frames : List (List UInt8)) (out : Option String) (rest : List CResp) (hw : WF s)
    (hs : s.script = .acquire true :: .send frames out :: rest) (hc : findByName s.cmds name = some c) (hq : s.seq < 256)
    (hid : c.id ≤ maxId (hdrOf s.version)) (hb : txBody c args kwargs = .ok b) :
    (∃ t, (command name args kwargs s).2.trace =
        s.trace ++ [.acquire (prioOf name), .sent (txHeader (hdrOf s.version) s.seq c.id ++ b)] ++ t ++ [.release] ∧ Calm t) ∧
    (command name args kwargs s).2.seq = (s.seq + 1) % 256 :=
  command_sends s name args kwargs c b frames out rest hw hs hc hq hid hb

/-- **a value comes only from the own reply** (source level): values returned ⇒ one of the frames received while the call was
suspended decodes, under the handler's version and table, to exactly these values with the sequence number placed in the request
and the frame ID of the command - late replies, duplicates, replies under another number or ID never produce a return value -/
theorem c06_src_own_reply (s : Proto) (name : String) (args : Vals) (kwargs : KwVals) (v : Vals) (sf : Proto) (hw : WF s)
    (h : command name args kwargs s = (.ok v, sf)) :
    ∃ c f1 f2 fin rest, s.script = .acquire true :: .send f1 none :: .wait f2 fin :: rest ∧ findByName s.cmds name = some c ∧
      ∃ d ∈ f1 ++ f2, ∃ nm tr, rxFrame s.version s.cmds d = .ok s.seq c.id nm v tr ∧ nm ≠ "invalidCommand" :=
  command_result s name args kwargs v sf hw h

/-- **the own reply is returned** (source level): no frame before it decodes with the call's sequence number; then the frame that
decodes with the sequence number placed in the request and the command's frame ID completes the call with exactly its decoded
payload - whatever follows it in the same wait, whatever would have ended the wait (`hpr`: EZSP holds this handler, so received
frames reach it) -/
theorem c06_src_reply_returned (s : Proto) (name : String) (args : Vals) (kwargs : KwVals) (c : Cmd) (data : List UInt8)
    (f1 pre post : List (List UInt8)) (d : List UInt8) (fin : WaitEnd) (rest : List CResp) (nm : String) (v : Vals) (tr : List UInt8)
    (hw : WF s) (hs : s.script = .acquire true :: .send f1 none :: .wait (pre ++ d :: post) fin :: rest)
    (hc : findByName s.cmds name = some c)
    (hfr : (ezsp_frame name args kwargs (entered s name (.send f1 none :: .wait (pre ++ d :: post) fin :: rest))).1 = .ok data)
    (hno : ∀ x ∈ f1 ++ pre, ∀ id nm v tr, rxFrame s.version s.cmds x ≠ .ok s.seq id nm v tr)
    (hd : rxFrame s.version s.cmds d = .ok s.seq c.id nm v tr) (hnm : nm ≠ "invalidCommand") (hpr : s.protocol = some ()) :
    (command name args kwargs s).1 = .ok v :=
  command_reply s name args kwargs c data f1 pre post d fin rest nm v tr hw hs hc hfr hno hd hnm hpr

/-- **the timeout** (source level): no frame with the call's sequence number while it is suspended ⇒ `TimeoutError` at the
deadline (`CancelledError` when the caller is cancelled), and the call's future is dead afterwards -/
theorem c06_src_timeout (s : Proto) (name : String) (args : Vals) (kwargs : KwVals) (c : Cmd) (data : List UInt8)
    (f1 f2 : List (List UInt8)) (fin : WaitEnd) (rest : List CResp) (hw : WF s)
    (hs : s.script = .acquire true :: .send f1 none :: .wait f2 fin :: rest) (hc : findByName s.cmds name = some c)
    (hfr : (ezsp_frame name args kwargs (entered s name (.send f1 none :: .wait f2 fin :: rest))).1 = .ok data)
    (hno : ∀ d ∈ f1 ++ f2, ∀ id nm v tr, rxFrame s.version s.cmds d ≠ .ok s.seq id nm v tr) :
    (command name args kwargs s).1 = .error (.raised (match fin with | .deadline => "TimeoutError" | .cancelled => "CancelledError")) ∧
    (command name args kwargs s).2.futs[s.futs.length]? = some .finished :=
  command_timeout s name args kwargs c data f1 f2 fin rest hw hs hc hfr hno

/-- `_ezsp_frame` (source level) is the model's `txFrame` header and changes nothing -/
theorem c06_src_frame (s : Proto) (name : String) (args : Vals) (kwargs : KwVals) (c : Cmd) (hc : findByName s.cmds name = some c)
    (hs : s.seq < 256) (hid : c.id ≤ maxId (hdrOf s.version)) :
    ezsp_frame name args kwargs s = ((txBody c args kwargs).map (txHeader (hdrOf s.version) s.seq c.id ++ ·), s) :=
  ezsp_frame_eq s name args kwargs c hc hs hid

/-! non-vacuity: a handler of protocol version 8 with the generated table, sequence number 255, one stale foreign entry -/
def st0 : Proto := { version := 8, cmds := BV.Gen.Commands.cmdsV8, seq := 255, awaiting := [(7, (5, 0))], futs := [.finished] }

example : WF st0 := by intro e he; simp [st0] at he; subst he; decide

/-- the hypotheses of `c06_src_request` / `c06_src_timeout` hold for `getValue(3)` on that handler: the command is in the table,
its frame ID fits the header, the argument serialises (to the byte 3) -/
example : ∃ c, findByName st0.cmds "getValue" = some c ∧ c.id = 170 ∧ c.id ≤ maxId (hdrOf st0.version) ∧
    txBody c [.num 3] [] = .ok [3] := by
  refine ⟨⟨"getValue", 170, [("valueId", .uint 1)], [("status", .uint 1), ("value", .lvbytes 1)]⟩, by rfl, rfl, by decide, ?_⟩
  simp [txBody, schemaIsDict, serDict, resolveArgs, resolveArgs.go, serFields, ser, leBytes]

/-- ... and the reply `ff 80 01 aa 00 | 00 | 02 07 08` decodes, under a version-8 handler that knows `getValue` as the generated
table declares it, with sequence number 255 and that frame ID to (0, bytes 07 08): the premise of `c06_src_reply_returned` about
the reply frame is satisfiable -/
example : rxFrame 8 [⟨"getValue", 170, [("valueId", .uint 1)], [("status", .uint 1), ("value", .lvbytes 1)]⟩]
    [255, 0x80, 1, 0xAA, 0, 0, 2, 7, 8] = .ok 255 170 "getValue" [.num 0, .bytes [7, 8]] [] := by
  simp [rxFrame, rxHeader, hdrOf, findById, List.find?, Cmd.rxT, deFields, de, leVal]

end Src

end BV.Props.C06
