/-
C05 — ASH sends end within the retry budget; a failed link stays silent until reset.
Model: BV.Ash.step (send_data / _send_data_frame at settled loop states, on the receiver model).
-/
import BV.Model.Ash.Sender
namespace BV.Props.C05
open BV.Ash BV.Gen.Ash

/-- the acknowledgement timeout always lies within the protocol's minimum and maximum, whatever value
`_change_ack_timeout` is given -/
theorem c05_timeout_clamped (v : Rat) : tMin ≤ clampT v ∧ clampT v ≤ tMax := by
  have h : tMin ≤ tMax := by decide +kernel
  unfold clampT
  -- `tMin ≤ max tMin _`; and `max tMin (min v tMax) ≤ tMax` from `h` and `min _ tMax ≤ tMax`
  -- (`Rat` has no `max` / `min` lemmas in scope, so `grind` supplies them)
  constructor <;> grind

/-- invariant of settled states -/
structure Inv (s : Tx) : Prop where
  tLo : tMin ≤ s.t
  tHi : s.t ≤ tMax
  att : ∀ c, s.cur = some c → c.attempt < ackTimeouts
  dl : ∀ c, s.cur = some c → tMin ≤ c.deadline - c.sendTime ∧ c.deadline - c.sendTime ≤ tMax

theorem inv_init (tx rx : Nat) : Inv { rx := { txSeq := tx, rxSeq := rx } } := by
  refine ⟨show tMin ≤ tInit by decide +kernel, show tInit ≤ tMax by decide +kernel, ?_, ?_⟩ <;> simp

/-- what one pass of the attempt loop does: a single DATA frame with the send's payload, the
retransmit flag set exactly on repeats, the current `rx_seq` as ackNum; the frame number is taken from
`tx_seq` (which advances by one mod 8) on the first attempt and kept on repeats; the deadline is the
current clamped timeout -/
theorem attempt_spec {s : Tx} {id : Nat} {p : List UInt8} {frm : Option Nat} {n : Nat}
    {s' : Tx} {o : List Out} (h : attempt s id p frm n = some (s', o)) :
    s.rx.failed = false ∧
    (∃ f, (frm = some f ∨ (frm = none ∧ f = s.rx.txSeq ∧ s'.rx.txSeq = (s.rx.txSeq + 1) % 8)) ∧
      o = [.ev (.write (wire [] (.data f (decide (n > 0)) s.rx.rxSeq p)))] ∧
      s'.cur = some { id := id, payload := p, frm := f, attempt := n, sendTime := s.now, deadline := s.now + s.t }) ∧
    s'.t = s.t ∧ s'.now = s.now ∧ s'.queue = s.queue ∧ s'.rx.failed = false ∧ s'.rx.rxSeq = s.rx.rxSeq := by
  unfold attempt at h
  by_cases hf : s.rx.failed = true
  · simp [hf] at h
  · have hf' : s.rx.failed = false := by simpa using hf
    simp only [hf', Bool.false_eq_true, ↓reduceIte] at h
    cases frm with
    | some f =>
      simp only [Option.some.injEq, Prod.mk.injEq] at h
      obtain ⟨rfl, rfl⟩ := h
      exact ⟨hf', ⟨f, Or.inl rfl, rfl, rfl⟩, rfl, rfl, rfl, hf', rfl⟩
    | none =>
      simp only [Option.some.injEq, Prod.mk.injEq] at h
      obtain ⟨rfl, rfl⟩ := h
      exact ⟨hf', ⟨s.rx.txSeq, Or.inr ⟨rfl, rfl, rfl⟩, rfl, rfl⟩, rfl, rfl, rfl, by simp, rfl⟩

theorem attempt_none (s : Tx) (id : Nat) (p : List UInt8) (frm : Option Nat) (n : Nat) :
    attempt s id p frm n = none ↔ s.rx.failed = true := by
  unfold attempt
  by_cases hf : s.rx.failed = true <;> simp [hf]

theorem startNext_failed (qs : List (Nat × List UInt8)) (s : Tx) (hf : s.rx.failed = true) :
    (startNext qs s).1 = { s with queue := [], cur := none } ∧
    (startNext qs s).2 = qs.map fun x => Out.done x.1 (.ncpFailure errorExceededMaxAck) := by
  induction qs with
  | nil => simp [startNext]
  | cons x xs ih =>
    obtain ⟨id, p⟩ := x
    have : attempt { s with queue := xs, cur := none } id p none 0 = none := (attempt_none _ _ _ _ _).mpr hf
    simp only [startNext, this, List.map_cons]
    exact ⟨ih.1, by rw [ih.2]⟩

/-- **a failed link stays silent**: while the link is FAILED every new or queued send fails at the gate
with the ack-timeout failure code and nothing is written -/
-- Stated on `step0`, like `c05_consecutive`: `step` has the same next state and only drops from the output the
-- outcome of a send whose caller was cancelled before (`BV.Ash.step`), which would blur what is said here.
theorem c05_failed_silent (s : Tx) (hf : s.rx.failed = true) (hc : s.cur = none) (hq : s.queue = [])
    (id : Nat) (p : List UInt8) :
    step0 s (.send id p) = ({ s with queue := [], cur := none }, [.done id (.ncpFailure errorExceededMaxAck)]) := by
  simp only [step0, hc, hq, Option.isSome_none, Bool.false_eq_true, List.isEmpty_nil, not_true_eq_false, or_self, ↓reduceIte]
  have := startNext_failed [(id, p)] s hf
  exact Prod.ext this.1 (by simpa using this.2)

theorem Inv.tOk {s : Tx} (h : Inv s) : tMin ≤ s.t ∧ s.t ≤ tMax := ⟨h.tLo, h.tHi⟩

theorem attempt_inv {s : Tx} {id p frm n s' o} (h : attempt s id p frm n = some (s', o))
    (ht : tMin ≤ s.t ∧ s.t ≤ tMax) (hn : n < ackTimeouts) : Inv s' := by
  obtain ⟨-, ⟨f, -, -, hcur⟩, e, -⟩ := attempt_spec h
  -- the armed wait is the timeout itself
  have hd : s.now + s.t - s.now = s.t := by rw [Rat.add_comm, Rat.add_sub_cancel]
  refine ⟨e ▸ ht.1, e ▸ ht.2, fun c hc => ?_, fun c hc => ?_⟩
  · cases hcur.symm.trans hc; exact hn
  · cases hcur.symm.trans hc; exact hd.symm ▸ ht

theorem startNext_inv (qs : List (Nat × List UInt8)) (s : Tx) (ht : tMin ≤ s.t ∧ s.t ≤ tMax) :
    Inv (startNext qs s).1 := by
  induction qs with
  | nil => exact ⟨ht.1, ht.2, by simp [startNext], by simp [startNext]⟩
  | cons x xs ih =>
    simp only [startNext]
    cases ha : attempt { s with queue := xs, cur := none } x.1 x.2 none 0 with
    | none => exact ih
    | some r => exact attempt_inv ha ht (by decide)

theorem finish_inv (s : Tx) (c : Cur) (r : Res) (ht : tMin ≤ s.t ∧ s.t ≤ tMax) : Inv (finish s c r).1 :=
  startNext_inv _ _ ht

theorem enterFailed_spec (s : Tx) : (enterFailed s).1.t = s.t ∧ (enterFailed s).1.rx.failed = true ∧
    (enterFailed s).2 = [.ev (.reset errorExceededMaxAck)] := by
  simp [enterFailed, cancelPending]

theorem retryOrFail_inv (s : Tx) (c : Cur) (r : Res) (ht : tMin ≤ s.t ∧ s.t ≤ tMax) :
    Inv (retryOrFail s c r).1 := by
  unfold retryOrFail
  split
  · simp only
    exact finish_inv _ _ _ ((enterFailed_spec s).1 ▸ ht)
  · rename_i hlt
    cases ha : attempt s c.id c.payload (some c.frm) (c.attempt + 1) with
    | none => exact finish_inv _ _ _ ht
    | some x => exact attempt_inv ha ht (by omega)

theorem finish_failed (s : Tx) (c : Cur) (r : Res) (hf : s.rx.failed = true) :
    (finish s c r).2 = .done c.id r :: s.queue.map (fun x => Out.done x.1 (.ncpFailure errorExceededMaxAck)) ∧
    (finish s c r).1.rx.failed = true ∧ (finish s c r).1.cur = none ∧ (finish s c r).1.queue = [] := by
  unfold finish
  simp only
  have hsn := startNext_failed s.queue
    { s with rx := { s.rx with pending := s.rx.pending.filter (·.1 ≠ c.frm) }, cur := none } hf
  rw [hsn.1, hsn.2]
  exact ⟨rfl, hf, rfl, rfl⟩

/-- the number of transmissions of one send never exceeds the budget: a retransmission is attempt
`k + 1` of a send whose attempt `k` satisfied `k + 1 < ACK_TIMEOUTS`, and it carries the same frame
number and payload with the retransmit flag set and the current `rx_seq`; when the budget is used the
upper layer is told exactly once with the ack-timeout reason, the link is FAILED, the send ends with
its error and every queued send fails without writing -/
theorem c05_budget (s : Tx) (c : Cur) (r : Res) :
    (c.attempt + 1 ≥ ackTimeouts →
        (retryOrFail s c r).2 = .ev (.reset errorExceededMaxAck) :: .done c.id r ::
            s.queue.map (fun x => Out.done x.1 (.ncpFailure errorExceededMaxAck)) ∧
        (retryOrFail s c r).1.rx.failed = true ∧ (retryOrFail s c r).1.cur = none ∧
        (retryOrFail s c r).1.queue = []) ∧
    (c.attempt + 1 < ackTimeouts → s.rx.failed = false →
        (retryOrFail s c r).2 = [.ev (.write (wire [] (.data c.frm true s.rx.rxSeq c.payload)))] ∧
        (retryOrFail s c r).1.cur = some { c with attempt := c.attempt + 1, sendTime := s.now, deadline := s.now + s.t }) := by
  constructor
  · intro hge
    unfold retryOrFail
    simp only [hge, ↓reduceIte]
    obtain ⟨ht, hf, ho⟩ := enterFailed_spec s
    obtain ⟨g1, g2, g3, g4⟩ := finish_failed (enterFailed s).1 c r hf
    have hq : (enterFailed s).1.queue = s.queue := by simp [enterFailed]
    rw [g1, ho, hq]
    exact ⟨rfl, g2, g3, g4⟩
  · intro hlt hnf
    unfold retryOrFail
    have : ¬ c.attempt + 1 ≥ ackTimeouts := by omega
    simp only [this, ↓reduceIte]
    simp [attempt, hnf]

theorem applyRx_inv (s : Tx) (f : Frame) (h : Inv s) : Inv (applyRx s f).1 := by
  have ht : tMin ≤ (applyRx s f).1.t ∧ (applyRx s f).1.t ≤ tMax := by
    simp only [applyRx]
    split
    · exact c05_timeout_clamped tInit
    · exact h.tOk
  exact { h with tLo := ht.1, tHi := ht.2 }

theorem wake_inv (s : Tx) (h : Inv s) : Inv (wake s).1 := by
  unfold wake
  cases hc : s.cur with
  | none => simpa using h
  | some c =>
    simp only
    have hcl := c05_timeout_clamped ((7 : Rat) / 8 * s.t + (1 : Rat) / 2 * (s.now - c.sendTime))
    split
    · exact finish_inv _ _ _ hcl
    · exact retryOrFail_inv _ _ _ hcl
    · exact finish_inv _ _ _ h.tOk
    · exact finish_inv _ _ _ h.tOk
    · exact h

theorem onTimeout_inv (s : Tx) (h : Inv s) : Inv (onTimeout s).1 := by
  unfold onTimeout
  cases hc : s.cur with
  | none => simpa using h
  | some c =>
    simp only
    exact retryOrFail_inv _ _ _ (c05_timeout_clamped (2 * s.t))

theorem step_inv (s : Tx) (i : In) (h : Inv s) : Inv (step s i).1 := by
  show Inv (step0 s i).1
  cases i with
  | send id p =>
    simp only [step0]
    split
    -- `Inv` reads only `t` and `cur`, which queueing, the clock and cancellation leave alone
    · exact { h with }
    · exact startNext_inv _ _ h.tOk
  | frame f =>
    simp only [step0]
    exact wake_inv _ (applyRx_inv s f h)
  | timeout =>
    simp only [step0]
    split
    · exact h
    · exact onTimeout_inv _ { h with }
  | race f =>
    simp only [step0]
    split
    · exact applyRx_inv s f h
    · exact onTimeout_inv _ (applyRx_inv _ f { h with })
  | batch f g =>
    simp only [step0]
    exact wake_inv _ (applyRx_inv _ g (applyRx_inv s f h))
  | wait d => exact { h with }
  | cancel id => exact { h with }

/-- **every event list** (any interleaving of sends, arriving frames, timer expiries, frames racing the
timer, clock advances and caller cancellations): in every settled state the acknowledgement timeout
lies in [T_RX_ACK_MIN, T_RX_ACK_MAX], the send holding the slot has used fewer than ACK_TIMEOUTS
attempts, and its armed deadline is a clamped timeout after its last transmission -/
theorem c05_invariant (tx rx : Nat) (is : List In) :
    Inv (run { rx := { txSeq := tx, rxSeq := rx } } is).1 := by
  suffices ∀ s, Inv s → Inv (run s is).1 from this _ (inv_init tx rx)
  induction is with
  | nil => intro s h; exact h
  | cons i is ih => intro s h; exact ih _ (step_inv s i h)

/-- window of one: while a send holds the slot a new send writes nothing and waits -/
theorem c05_window_one (s : Tx) (c : Cur) (hc : s.cur = some c) (id : Nat) (p : List UInt8) :
    step s (.send id p) = ({ s with queue := s.queue ++ [(id, p)] }, []) := by
  simp [step, step0, hc]

/-- consecutive numbering: the first transmission of a send takes `tx_seq` and advances it by one
modulo 8 (an RSTACK puts it back to 0, see C04) -/
theorem c05_consecutive (s : Tx) (hnf : s.rx.failed = false) (hc : s.cur = none) (hq : s.queue = [])
    (id : Nat) (p : List UInt8) :
    (step0 s (.send id p)).2 = [.ev (.write (wire [] (.data s.rx.txSeq false s.rx.rxSeq p)))] ∧
    (step0 s (.send id p)).1.rx.txSeq = (s.rx.txSeq + 1) % 8 := by
  simp [step0, hc, hq, startNext, attempt, hnf]

example : (run {} [.send 1 [0xAA], .timeout, .timeout, .timeout, .timeout, .timeout]).1.rx.failed = true := by
  decide +kernel

end BV.Props.C05
