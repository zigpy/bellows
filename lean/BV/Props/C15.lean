/-
C15 — Host view of the multicast table matches the NCP and never leaks slots.
Model: BV/Model/Multicast.lean (Multicast._initialize / subscribe / unsubscribe and the
abstract NCP table: a write answered OK is applied, a rejected or timed-out one is not).
All theorems are for every operation sequence, every table size, every initial table in
which each group is programmed at most once, every answer and every `set.pop()` choice.
-/
import BV.Proofs.McastLemmas
import BV.Proofs.Src.Mcast
namespace BV.Props.C15
open BV.Mcast

/-- What a step of `Mcast.step` can be, as far as the theorems below look at it.  `quiet` stands for the four branches
that change nothing and write nothing (it does not say which, nor with what result); each other row is one branch,
with what it knows of the host state and what it yields. -/
inductive StepCase (h : Host) (tab : Tab) : Op → Host × Tab × Out → Prop
  | init : StepCase h tab .init (scan tab, tab, ⟨.ok, none⟩)
  | quiet {op res} : StepCase h tab op (h, tab, ⟨res, none⟩)
  | subOk {g c} : g ∉ groups h → c ∈ h.avail → StepCase h tab (.subscribe g c .ok)
      ({ mc := h.mc ++ [(g, c)], avail := h.avail.erase c }, tab.set c (g, 1), ⟨.ok, some (c, g, 1)⟩)
  | subFail {g c a res} : g ∉ groups h → c ∈ h.avail → StepCase h tab (.subscribe g c a)
      ({ h with avail := addAvail (h.avail.erase c) c }, tab, ⟨res, some (c, g, 1)⟩)
  | unsubOk {g idx} : (g, idx) ∈ h.mc → StepCase h tab (.unsubscribe g .ok)
      ({ mc := h.mc.filter (·.1 != g), avail := addAvail h.avail idx }, tab.set idx (g, 0), ⟨.ok, some (idx, g, 0)⟩)
  | unsubFail {g idx a res} : (g, idx) ∈ h.mc → StepCase h tab (.unsubscribe g a) (h, tab, ⟨res, some (idx, g, 0)⟩)

theorem step_case (h : Host) (tab : Tab) (op : Op) : StepCase h tab op (step h tab op) := by
  cases op with
  | init => exact .init
  | subscribe g c a =>
    unfold step
    by_cases h1 : (lookupIdx h.mc g).isSome
    · simpa [h1] using .quiet
    · by_cases h2 : h.avail = []
      · simpa [h1, h2] using .quiet
      · by_cases h3 : c ∉ h.avail
        · simpa [h1, h2, h3] using .quiet
        · have hg : g ∉ groups h := mt lookupIdx_isSome.mpr h1
          have hc : c ∈ h.avail := by simpa using h3
          simp only [h1, h2, h3, if_false, Bool.false_eq_true]
          cases a with
          | ok => simp only; rw [mcSet_absent hg]; exact .subOk hg hc
          | reject st | timeout => exact .subFail hg hc
  | unsubscribe g a =>
    cases hl : lookupIdx h.mc g with
    | none => simpa only [step, hl] using .quiet
    | some idx =>
      simp only [step, hl]
      cases a with
      | ok => exact .unsubOk (lookupIdx_some hl)
      | reject st | timeout => exact .unsubFail (lookupIdx_some hl)

theorem step_inv {h : Host} {tab : Tab} (inv : Inv h tab) (op : Op) :
    Inv (step h tab op).1 (step h tab op).2.1 := by
  have sc := step_case h tab op
  generalize step h tab op = r at sc ⊢
  cases sc with
  | init => exact scan_inv tab inv.nodupGroups
  | quiet | unsubFail => exact inv
  | subOk hg hc => exact inv.claim hc hg (by simp)
  | @subFail _ c _ _ _ hc =>
    -- a failed write puts the popped index back: the same set
    exact inv.avail_congr (addAvail_nodup (inv.aNodup.erase c) c) fun j => by
      rw [mem_addAvail, inv.aNodup.mem_erase_iff]
      refine ⟨fun hj => hj.elim And.right (· ▸ hc), fun hj => ?_⟩
      by_cases e : j = c
      · exact .inr e
      · exact .inl ⟨e, hj⟩
  | unsubOk hm => exact inv.release hm

theorem run_inv {h : Host} {tab : Tab} (inv : Inv h tab) (ops : List Op) :
    Inv (run h tab ops).1 (run h tab ops).2.1 := by
  induction ops generalizing h tab with
  | nil => exact inv
  | cons op ops ih => simpa [run] using ih (step_inv inv op)

/-- After start-up and any further sequence of start-up / subscribe / unsubscribe calls the
bookkeeping invariant holds (every reachable state). -/
theorem c15_inv (tab0 : Tab) (h0 : Host) (hng : NodupGroups tab0) (ops : List Op) :
    Inv (run h0 tab0 (.init :: ops)).1 (run h0 tab0 (.init :: ops)).2.1 := by
  simpa [run, step] using run_inv (scan_inv tab0 hng) ops

/-- The groups the host reports as subscribed are exactly those programmed with a non-zero
endpoint in the NCP's table. -/
theorem c15_mirror {h : Host} {tab : Tab} (inv : Inv h tab) (g : Nat) :
    g ∈ groups h ↔ ∃ (i ep : Nat), tab[i]? = some (g, ep) ∧ ep ≠ 0 := by
  constructor
  · intro hg
    obtain ⟨⟨g', i⟩, hm, rfl⟩ := List.mem_map.mp hg
    exact ⟨i, inv.used g' i hm⟩
  · rintro ⟨i, ep, hep, hne⟩
    exact List.mem_map_of_mem (f := (·.1)) (inv.owner hep hne)

/-- Every table index is either free or used by exactly one group (never both, never neither). -/
theorem c15_partition {h : Host} {tab : Tab} (inv : Inv h tab) (i : Nat) (hi : i < tab.length) :
    (i ∈ h.avail ∧ ∀ g, (g, i) ∉ h.mc) ∨
    (i ∉ h.avail ∧ ∃ g, (g, i) ∈ h.mc ∧ ∀ g', (g', i) ∈ h.mc → g' = g) := by
  rcases inv.cover i hi with ha | ⟨g, hm⟩
  · exact Or.inl ⟨ha, fun g hm => inv.excl ha hm⟩
  · refine Or.inr ⟨fun ha => inv.excl ha hm, g, hm, fun g' hm' => ?_⟩
    obtain ⟨ep, hep, _⟩ := inv.used g i hm
    obtain ⟨ep', hep', _⟩ := inv.used g' i hm'
    rw [hep] at hep'; cases hep'; rfl

/-- Subscribing to an already subscribed group succeeds without a table write (and changes nothing). -/
theorem c15_resubscribe (h : Host) (tab : Tab) (g c : Nat) (a : Ans) (hg : g ∈ groups h) :
    step h tab (.subscribe g c a) = (h, tab, ⟨.ok, none⟩) := by
  have : (lookupIdx h.mc g).isSome = true := lookupIdx_isSome.mpr hg
  simp [step, this]

/-- Subscribing with no free index reports failure and writes nothing. -/
theorem c15_full (h : Host) (tab : Tab) (g c : Nat) (a : Ans) (hg : g ∉ groups h) (hf : h.avail = []) :
    step h tab (.subscribe g c a) = (h, tab, ⟨.invalidIndex, none⟩) := by
  have : (lookupIdx h.mc g).isSome = false := Bool.eq_false_iff.mpr (mt lookupIdx_isSome.mp hg)
  simp [step, this, hf]

/-- A call that fails — by rejection or by a command timeout — leaves the number of free
indices unchanged. (`choice ∈ avail` is what `set.pop()` guarantees.) -/
theorem c15_failed_call_keeps_free {h : Host} {tab : Tab} (inv : Inv h tab) (op : Op)
    (hop : op ≠ .init) (hch : ∀ g c a, op = .subscribe g c a → h.avail ≠ [] → c ∈ h.avail)
    (hfail : (step h tab op).2.2.res ≠ .ok) :
    (step h tab op).1.avail.length = h.avail.length := by
  have sc := step_case h tab op
  generalize step h tab op = r at sc hfail ⊢
  cases sc with
  | init => exact absurd rfl hop
  | subOk | unsubOk => exact absurd rfl hfail
  | quiet | unsubFail => rfl
  | @subFail _ c _ _ _ hc =>
    have : c ∉ h.avail.erase c := fun hm => (inv.aNodup.mem_erase_iff.mp hm).1 rfl
    have : 0 < h.avail.length := List.length_pos_of_mem hc
    simp only [addAvail, *, if_false, List.length_append, List.length_erase_of_mem hc, List.length_cons, List.length_nil]
    omega

/-- A successful subscribe programs the group with a non-zero endpoint at a previously free
index; a successful unsubscribe clears it and frees the index. -/
theorem c15_write_shape (h : Host) (tab : Tab) (op : Op) (i g ep : Nat)
    (hw : (step h tab op).2.2.write = some (i, g, ep)) :
    (∃ c a, op = .subscribe g c a ∧ i = c ∧ ep = 1 ∧ c ∈ h.avail ∧ g ∉ groups h) ∨
    (∃ a, op = .unsubscribe g a ∧ ep = 0 ∧ (g, i) ∈ h.mc) := by
  have sc := step_case h tab op
  generalize step h tab op = r at sc hw
  cases sc with
  | init | quiet => simp at hw
  | subOk hg hc | subFail hg hc =>
    simp at hw; obtain ⟨rfl, rfl, rfl⟩ := hw; exact .inl ⟨_, _, rfl, rfl, rfl, hc, hg⟩
  | unsubOk hm | unsubFail hm =>
    simp at hw; obtain ⟨rfl, rfl, rfl⟩ := hw; exact .inr ⟨_, rfl, rfl, hm⟩

/-- non-vacuity: a concrete reachable history with a rejected and a timed-out write -/
example :
    let r := run {} [(7, 1), (0, 0), (9, 0)]
      [.init, .subscribe 5 1 .ok, .subscribe 6 2 .timeout, .subscribe 6 2 (.reject 3), .unsubscribe 7 .ok]
    r.1.mc = [(5, 1)] ∧ r.1.avail = [2, 0] ∧ r.2.1 = [(7, 0), (5, 1), (9, 0)] := by decide

/-! ### the same statements over the coroutines generated from bellows/multicast.py (BV/Gen/SrcMcast.lean)

`Multicast.subscribe`, `Multicast.unsubscribe` and `Multicast._initialize` are translated from the syntax tree on every run (each
`await` a call on a scripted command layer, `set.pop()` a scripted choice); `BV.Proofs.Src.Mcast` proves them to be the steps of
the model above.  Here the property's clauses are restated over the generated definitions. -/
section Src
open BV.Src.Mcast BV.Proofs.Src.Mcast

/-- the translated `subscribe` *is* the model's subscribe step -/
theorem c15_src_subscribe (m : M) (tab : Tab) (g c : Nat) (cs : List Nat) (r : Resp) (rest : List Resp) (a : Ans)
    (hw : WF m) (hg : g < 65536) (hs : m.script = r :: rest) (hc : m.choices = c :: cs)
    (hca : m.available ≠ [] → c ∈ m.available) (ha : ansOf r = some a) :
    absH (Multicast.subscribe g m).2 = (step (absH m) tab (.subscribe g c a)).1 ∧
    WF (Multicast.subscribe g m).2 ∧
    resRel (Multicast.subscribe g m).1 (step (absH m) tab (.subscribe g c a)).2.2.res ∧
    writeRel ((Multicast.subscribe g m).2.trace.drop m.trace.length) (step (absH m) tab (.subscribe g c a)).2.2.write :=
  subscribe_eq m tab g c cs r rest a hw hg hs hc hca ha

/-- the translated `unsubscribe` *is* the model's unsubscribe step -/
theorem c15_src_unsubscribe (m : M) (tab : Tab) (g : Nat) (r : Resp) (rest : List Resp) (a : Ans)
    (hw : WF m) (hs : m.script = r :: rest) (ha : ansOf r = some a) :
    absH (Multicast.unsubscribe g m).2 = (step (absH m) tab (.unsubscribe g a)).1 ∧
    WF (Multicast.unsubscribe g m).2 ∧
    resRel (Multicast.unsubscribe g m).1 (step (absH m) tab (.unsubscribe g a)).2.2.res ∧
    writeRel ((Multicast.unsubscribe g m).2.trace.drop m.trace.length) (step (absH m) tab (.unsubscribe g a)).2.2.write :=
  unsubscribe_eq m tab g r rest a hw hs ha

/-- the translated `_initialize` *is* the model's table scan (all reads succeeding) -/
theorem c15_src_initialize (m : M) (rows : List Row) (rest : List Resp) (stc : StatusV) (hc : statusIsOk stc = true)
    (hall : ∀ r ∈ rows, statusIsOk r.1 = true)
    (hs : m.script = Resp.cfg stc rows.length :: (rows.map (fun r => Resp.entry r.1 r.2) ++ rest)) :
    ∃ m', Multicast.u_initialize m = (.ok (), m') ∧ absH m' = scan (tabOf rows) ∧ m'.script = rest ∧ WF m' ∧
      m'.trace = m.trace ++ .getConfig 6 :: (List.range rows.length).map MEv.getEntry :=
  initialize_eq m rows rest stc hc hall hs

/-- **a subscribe that fails - the table write is rejected or the command raises - leaves the number of free indices
unchanged** (source level; the clause the `fix:` commit 76e3f6a restored) -/
theorem c15_src_failed_subscribe_keeps_free (m : M) (tab : Tab) (g c : Nat) (cs : List Nat) (r : Resp) (rest : List Resp) (a : Ans)
    (inv : Inv (absH m) tab) (hw : WF m) (hg : g < 65536) (hs : m.script = r :: rest) (hc : m.choices = c :: cs)
    (hca : m.available ≠ [] → c ∈ m.available) (ha : ansOf r = some a)
    (hfail : ∀ st, (Multicast.subscribe g m).1 = .ok st → statusIsOk st = false) :
    (Multicast.subscribe g m).2.available.length = m.available.length := by
  obtain ⟨h1, -, h3, -⟩ := subscribe_eq m tab g c cs r rest a hw hg hs hc hca ha
  have hne : (step (absH m) tab (.subscribe g c a)).2.2.res ≠ .ok := by
    intro he
    rw [he] at h3
    obtain ⟨st, e1, e2⟩ := h3
    have := hfail st e1
    rw [e2] at this
    exact Bool.noConfusion this
  have := c15_failed_call_keeps_free inv (.subscribe g c a) (by simp)
    (by intro g' c' a' he hne'; cases he; exact hca hne') hne
  rw [← h1] at this
  exact this

/-- non-vacuity: a table with one free slot; the write is refused with a failure status - the slot is free again, the refusal
is what the caller gets, one table write was issued -/
example : Multicast.subscribe 5 { available := [0], script := [.one (.ember 1)], choices := [0] } =
    (.ok (.ember 1), { available := [0], script := [], choices := [],
                       trace := [.setEntry 0 { multicastId := 5, endpoint := 1, networkIndex := 0 }] }) := by decide +kernel

example : (Multicast.subscribe 5 { available := [0], script := [.raises "TimeoutError"], choices := [0] }).2.available = [0] := by
  decide +kernel

end Src

end BV.Props.C15
