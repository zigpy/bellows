/-
C11 — the reset handshake completes only on the NCP's software-reset acknowledgement.
Model: BV.Reset (Gateway.reset / wait_for_startup_reset / reset_received / error_received /
connection_lost / eof_received over the ASH receiver model; batches of primitives per loop iteration).
-/
import BV.Model.Stack.Reset
-- for its source-level tie as well as for the receiver lemmas: a change to bellows/ash.py that breaks
-- `frame_received = onFrame` must break this module's obligations too (the reset model runs on `onFrame`)
import BV.Props.C04
import BV.Proofs.ResetLemmas
import BV.Proofs.Src.Uart
import BV.Proofs.Src.UartReset
namespace BV.Props.C11
open BV.Reset BV.Ash BV.Gen.Ash

/-- a reset request on an open transport with no request in progress writes exactly the CANCEL-prefixed
RST frame `1A C0 38 BC 7E` (computed from the C03 frame model) and arms the reset timeout -/
theorem c11_rst_bytes (s : GW) (c : Nat) (h1 : s.resetFut = none) (h2 : s.ash.open_ = true) :
    (prim s (.reset c)).2 = [.write [0x1A, 0xC0, 0x38, 0xBC, 0x7E]] ∧
    (prim s (.reset c)).1.deadline = some (s.now + resetTimeoutT) ∧
    (prim s (.reset c)).1.resetFut = some .pending := by
  have hw : wire [resCancel] .rst = [0x1A, 0xC0, 0x38, 0xBC, 0x7E] := by decide +kernel
  simp [prim, h1, h2, hw]

/-- **only the software-reset acknowledgement completes the request**, for all 256 codes: an RSTACK
resolves a pending reset future iff its code is RESET_SOFTWARE (0x0B); with any other code it is reported
as an NCP failure and the request stays pending -/
theorem c11_only_software_rstack (s : GW) (code : Nat) (h : s.resetFut = some .pending) :
    (code = resetSoftware →
        (resetReceived s code).1.resetFut = some .result ∧ (resetReceived s code).1.waitFut = .result ∧
        (resetReceived s code).2 = []) ∧
    (code ≠ resetSoftware → resetReceived s code = (s, [.enterFailed code])) := by
  constructor
  · intro hc; simp [resetReceived, hc, h]
  · intro hc; simp [resetReceived, hc]

/-- an ERROR frame, whatever code it carries, is an NCP failure and never a completion -/
theorem c11_error_is_failure (s : GW) (v code : UInt8) :
    (prim s (.frame (.error v code))).2 = [.enterFailed code.toNat] ∧
    (prim s (.frame (.error v code))).1.resetFut = s.resetFut ∧
    (prim s (.frame (.error v code))).1.waitFut = s.waitFut ∧
    (prim s (.frame (.error v code))).1.startupFut = s.startupFut := by
  simp [prim, onFrame, cancelPending]

/-- frames other than RSTACK and ERROR never touch the reset / start-up futures -/
theorem c11_other_frames (s : GW) (f : Frame) (h1 : ∀ v c, f ≠ .rstack v c) (h2 : ∀ v c, f ≠ .error v c) :
    (prim s (.frame f)).1.resetFut = s.resetFut ∧ (prim s (.frame f)).1.startupFut = s.startupFut ∧
    (prim s (.frame f)).1.waitFut = s.waitFut := by
  have hno : ∀ e ∈ (onFrame s.ash f).2, ∀ c, e ≠ Ev.reset c := by
    cases f with
    | data n r a p =>
      obtain ⟨t, ht, -⟩ := BV.Ash.onFrame_data s.ash n r a p
      rw [ht]
      intro e he c hc
      subst hc
      simpa using BV.Ash.onData_evs t n r p _ he
    | ack x y a => intro e he; simp [onFrame] at he
    | nak x y a => intro e he; simp [onFrame] at he
    | rst => intro e he; simp [onFrame] at he
    | rstack v c => exact absurd rfl (h1 v c)
    | error v c => exact absurd rfl (h2 v c)
  simp only [prim]
  refine List.foldlRecOn (motive := fun (acc : GW × List Out) => acc.1.resetFut = s.resetFut ∧
    acc.1.startupFut = s.startupFut ∧ acc.1.waitFut = s.waitFut) _ _ ⟨rfl, rfl, rfl⟩ fun acc ha e he => ?_
  cases e with
  | reset c => exact absurd rfl (hno _ he c)
  | _ => exact ha

/-- after a software-reset RSTACK both directions restart at frame number zero, from every counter state -/
theorem c11_counters_zero (s : GW) (v code : UInt8) :
    (prim s (.frame (.rstack v code))).1.ash.rxSeq = 0 ∧ (prim s (.frame (.rstack v code))).1.ash.txSeq = 0 := by
  simp only [prim, onFrame, List.foldl_cons, List.foldl_nil]
  unfold resetReceived
  split
  · simp
  · split
    · simp
    · split <;> simp

/-- no reply in time: the request raises TimeoutError when the clock reaches `start + RESET_TIMEOUT` -/
theorem c11_timeout (s : GW) (c : Nat) (h1 : s.resetFut = none) (h2 : s.ash.open_ = true)
    (h3 : s.startupFut = none) :
    let s1 := (step s [.reset c]).1
    (step s1 [.timer]).2 = [.resetDone c .timeout] ∧ (step s1 [.timer]).1.now = s.now + resetTimeoutT := by
  simp [step, prim, h1, h2, h3, settle, List.zipIdx]

/-- invariant relating the attribute `_reset_future`, the future object the waiters hold, and the
start-up waiter -/
structure Inv (s : GW) : Prop where
  attr : ∀ st, s.resetFut = some st → st = s.waitFut
  held : s.resetWaiters ≠ [] → s.waitFut = .pending → s.resetFut ≠ none
  startup : s.startupWaiter.isSome → s.startupFut ≠ none

theorem resetReceived_inv (s : GW) (code : Nat) (h : Inv s) : Inv (resetReceived s code).1 := by
  unfold resetReceived
  split
  · exact h
  · split
    · refine ⟨by intro st hs; simp at hs; simp [← hs], by intro _ hp; simp at hp, h.startup⟩
    · split
      · exact ⟨h.attr, h.held, by intro _; simp⟩
      · exact h

theorem connectionLost_spec (s : GW) (e : Bool) (h : Inv s) :
    Inv (connectionLost s e).1 ∧ Out.invalidState ∉ (connectionLost s e).2 ∧
    ((connectionLost s e).1.resetWaiters ≠ [] → (connectionLost s e).1.waitFut ≠ .pending) ∧
    (connectionLost s e).1.startupFut ≠ some .pending := by
  rw [connectionLost_fst, connectionLost_snd]
  -- the future the waiters hold is not pending afterwards: it was the attribute's (`attr`, `held`) and has been failed, or it was resolved before
  have hwait : s.resetWaiters ≠ [] → (if s.resetFut = some .pending then FS.exc else s.waitFut) ≠ .pending := by
    intro hne
    split
    · nofun
    · next hp =>
      intro hw
      cases hr : s.resetFut with
      | none => exact h.held hne hw hr
      | some st => exact hp (by rw [hr, h.attr st hr, hw])
  refine ⟨⟨nofun, fun hne hw => absurd hw (hwait hne), fun hs => ?_⟩, ?_, hwait, ?_⟩
  · dsimp only; split
    · nofun
    · exact h.startup hs
  · cases s.connDonePending <;> cases e <;> simp
  · dsimp only; split
    · nofun
    · assumption

theorem prim_inv (s : GW) (p : Prim) (h : Inv s) : Inv (prim s p).1 := by
  cases p with
  | reset c =>
    simp only [prim]
    split
    · next hf => exact ⟨h.attr, fun _ _ => by simp [hf], h.startup⟩
    · split
      · exact ⟨fun st hs => by cases hs; rfl, fun _ _ => nofun, h.startup⟩
      · exact h
  | waitStartup c => exact ⟨h.attr, h.held, by intro _; simp [prim]⟩
  | frame f =>
    refine List.foldlRecOn (motive := fun (acc : GW × List Out) => Inv acc.1) _ _
      (b := ({ s with ash := (onFrame s.ash f).1 }, [])) ⟨h.attr, h.held, h.startup⟩ fun acc ha e _ => ?_
    cases e with
    | reset code =>
      dsimp only
      split
      · exact ha
      · exact resetReceived_inv _ code ha
    | _ => exact ha
  | lost e =>
    have h' : Inv { s with ash := { s.ash with open_ := false } } := ⟨h.attr, h.held, h.startup⟩
    exact (connectionLost_spec _ e h').1
  | eof => exact (connectionLost_spec s true h).1
  | timer =>
    simp only [prim]
    split
    · split
      · exact ⟨h.attr, h.held, h.startup⟩
      · split
        · exact ⟨fun st hs => by cases hr : s.resetFut <;> simp [hr] at hs; exact hs.symm, fun _ => nofun, h.startup⟩
        · exact ⟨h.attr, h.held, h.startup⟩
    · exact h

theorem settle_clears (s : GW) (h1 : s.resetWaiters ≠ [] → s.waitFut ≠ .pending)
    (h2 : s.startupFut ≠ some .pending) (h3 : s.startupWaiter.isSome → s.startupFut ≠ none) :
    (settle s).1.resetWaiters = [] ∧ (settle s).1.startupWaiter = none := by
  unfold settle
  -- first stage: the reset waiters resume unless there are none (`h1`); the start-up fields are not touched
  generalize hst : (if s.resetWaiters.isEmpty ∨ s.waitFut = .pending then _ else _ : GW × List Out) = st1
  have hfirst : st1.1.resetWaiters = [] ∧ st1.1.startupFut = s.startupFut ∧ st1.1.startupWaiter = s.startupWaiter := by
    subst hst
    split
    · next hc => exact ⟨hc.elim (by simp) fun hp => Classical.byContradiction fun hne => h1 hne hp, rfl, rfl⟩
    · exact ⟨rfl, rfl, rfl⟩
  obtain ⟨s1, o1⟩ := st1
  obtain ⟨e1, e2, e3⟩ := hfirst
  simp only at e1 e2 e3 ⊢
  -- second stage: the start-up waiter, if there is one, has a resolved future (`h2`, `h3`) and resumes
  rw [e2, e3]
  cases hs : s.startupFut with
  | none =>
    cases hc : s.startupWaiter with
    | none => exact ⟨e1, e3.trans hc⟩
    | some c => exact absurd hs (h3 (by simp [hc]))
  | some st =>
    cases st with
    | pending => exact absurd hs h2
    | result | exc | cancelled => cases hc : s.startupWaiter <;> simp [e1, e3, hc]

theorem batch_inv (s : GW) (h : Inv s) (ps : List Prim) :
    Inv (ps.foldl (fun (acc : GW × List Out) p => let x := prim acc.1 p; (x.1, acc.2 ++ x.2)) (s, [])).1 := by
  refine List.foldlRecOn (motive := fun (acc : GW × List Out) => Inv acc.1) ps _ h fun acc ha p _ => ?_
  exact prim_inv acc.1 p ha

theorem step_snoc (s : GW) (h : Inv s) (pre : List Prim) (p : Prim) :
    ∃ mid, Inv mid ∧ (step s (pre ++ [p])).1 = (settle (prim mid p).1).1 :=
  ⟨_, batch_inv s h pre, by simp [step, List.foldl_append]⟩

/-- **waiters are released on connection loss**: whatever happened earlier in the same loop iteration
(an RSTACK that already resolved the future, the reset timeout, another loss, …), once the connection
is lost - with or without an error, or by end-of-file - no reset waiter and no start-up waiter is left
pending after the iteration settles, and `connection_lost` itself never raises -/
theorem c11_waiters_released (s : GW) (h : Inv s) (pre : List Prim) (e : Bool) :
    (step s (pre ++ [.lost e])).1.resetWaiters = [] ∧ (step s (pre ++ [.lost e])).1.startupWaiter = none ∧
    (step s (pre ++ [.eof])).1.resetWaiters = [] ∧ (step s (pre ++ [.eof])).1.startupWaiter = none := by
  obtain ⟨m1, h1, e1⟩ := step_snoc s h pre (.lost e)
  obtain ⟨m2, h2, e2⟩ := step_snoc s h pre .eof
  rw [e1, e2]
  obtain ⟨i1, -, w1, st1⟩ := connectionLost_spec { m1 with ash := { m1.ash with open_ := false } } e
    ⟨h1.attr, h1.held, h1.startup⟩
  obtain ⟨i2, -, w2, st2⟩ := connectionLost_spec m2 true h2
  exact ⟨(settle_clears _ w1 st1 i1.startup).1, (settle_clears _ w1 st1 i1.startup).2,
    (settle_clears _ w2 st2 i2.startup).1, (settle_clears _ w2 st2 i2.startup).2⟩

theorem c11_connection_lost_never_raises (s : GW) (h : Inv s) (e : Bool) :
    Out.invalidState ∉ (connectionLost s e).2 := (connectionLost_spec s e h).2.1

theorem inv_init (tx rx : Nat) : Inv { ash := { txSeq := tx, rxSeq := rx } } :=
  ⟨by intro st h; simp at h, by intro h; simp at h, by intro h; simp at h⟩

theorem settle_inv (s : GW) (h : Inv s) : Inv (settle s).1 := by
  unfold settle
  by_cases hc : s.resetWaiters.isEmpty = true ∨ s.waitFut = .pending
  · simp only [hc, ↓reduceIte]
    split
    · exact h
    · exact ⟨h.attr, h.held, by intro hh; simp at hh⟩
    · exact h
  · simp only [hc, ↓reduceIte]
    split
    · exact ⟨by intro st hs; simp at hs, by intro hh; simp at hh, h.startup⟩
    · exact ⟨by intro st hs; simp at hs, by intro hh; simp at hh, by intro hh; simp at hh⟩
    · exact ⟨by intro st hs; simp at hs, by intro hh; simp at hh, h.startup⟩

/-- the invariant holds after every iteration, hence in every reachable state -/
theorem c11_invariant (s : GW) (h : Inv s) (batch : List Prim) : Inv (step s batch).1 :=
  settle_inv _ (batch_inv s h batch)

example : (step (step {} [.reset 1]).1 [.frame (.rstack 2 11), .lost true]).2 =
    [.connDone true, .appLost, .resetDone 1 .ok] := by decide +kernel

/-! ### the same statements over the definitions generated from bellows/uart.py (BV/Gen/SrcUart.lean)

`Gateway.reset_received`, `error_received`, `connection_lost`, `eof_received` are translated from the syntax tree on every
run; `BV.Proofs.Src.Uart` proves them equal to the primitives `resetReceived` / `connectionLost` used above (futures in a
heap, `WF` = ids valid and distinct, the connection-done future pending while the attribute holds it). -/
section Src
open BV.Py BV.Src.Uart BV.Proofs.Src.Uart

/-- the translated `Gateway.reset_received` *is* the model's `resetReceived`, on every well-formed gateway object -/
theorem c11_src_reset_received (g : Gateway) (s : GW) (code : Nat) (hw : WF g) (hr : Rel g s) :
    ∃ g', Gateway.reset_received code g = (.ok (), g') ∧ WF g' ∧ Rel g' (resetReceived s code).1 ∧
      g'.trace = g.trace ++ ((resetReceived s code).2.flatMap (evOf none)) :=
  let ⟨g', h1, h2, h3, h4, _⟩ := reset_received_eq g s code hw hr
  ⟨g', h1, h2, h3, h4⟩

/-- **only the software-reset acknowledgement completes the request** (source level): with a reset request pending,
`reset_received(RESET_SOFTWARE)` resolves exactly that future and tells the application nothing; any other code leaves
every future alone and reports an NCP failure with that code -/
theorem c11_src_only_software_rstack (g : Gateway) (code i : Nat) (hw : WF g) (hi : g.reset_future = some i)
    (hp : fget g.futs i = .pending) :
    (code = 11 → ∃ g', Gateway.reset_received code g = (.ok (), g') ∧ absF (fget g'.futs i) = .result ∧ g'.trace = g.trace ∧
        g'.reset_future = some i) ∧
    (code ≠ 11 → Gateway.reset_received code g = (.ok (), { g with trace := g.trace ++ [.appEnterFailed code] })) := by
  refine ⟨?_, reset_received_other g code⟩
  rintro rfl
  have hc : cell g.futs (some i) = some .pending := by simp [cell, hp, absF_p]
  refine ⟨_, reset_received_ack g hw, ?_, rfl, hi⟩
  simp only [acked, hi, hc, if_true]
  rw [fget_resolve_pending (getElem?_pending (hw.rv i hi) hp), absF_r]

/-- an ERROR frame's code goes to the application as a failure; no future is touched (source level) -/
theorem c11_src_error_is_failure (g : Gateway) (code : Nat) :
    Gateway.error_received code g = (.ok (), { g with trace := g.trace ++ [.appEnterFailed code] }) :=
  error_received_eq g code

/-- the translated `Gateway.connection_lost` *is* the model's `connectionLost` -/
theorem c11_src_connection_lost (g : Gateway) (s : GW) (exc : Option ExcVal) (hw : WF g) (hr : Rel g s) :
    (Gateway.connection_lost exc g).1 = .ok () ∧ WF (Gateway.connection_lost exc g).2 ∧
    Rel (Gateway.connection_lost exc g).2 (connectionLost s exc.isSome).1 ∧
    (Gateway.connection_lost exc g).2.trace = g.trace ++ ((connectionLost s exc.isSome).2.flatMap (evOf exc)) :=
  let ⟨h1, h2, h3, h4, _⟩ := connection_lost_eq g s exc hw hr
  ⟨h1, h2, h3, h4⟩

/-- **`connection_lost` and `eof_received` never raise, release every waiter and clear both attributes** (source level):
afterwards the future a reset waiter holds and the start-up future are resolved (with the connection error if they were
still pending, untouched otherwise), and the connection-done future carries the reason -/
theorem c11_src_connection_lost_releases (g : Gateway) (exc : Option ExcVal) (hw : WF g) :
    (Gateway.connection_lost exc g).1 = .ok () ∧
    (Gateway.eof_received g).1 = .ok () ∧
    (Gateway.connection_lost exc g).2.reset_future = none ∧
    (Gateway.connection_lost exc g).2.connection_done_future = none ∧
    (∀ i, g.reset_future = some i → fget (Gateway.connection_lost exc g).2.futs i ≠ .pending) ∧
    (∀ j, g.startup_reset_future = some j → fget (Gateway.connection_lost exc g).2.futs j ≠ .pending) ∧
    (∀ k, g.connection_done_future = some k → fget (Gateway.connection_lost exc g).2.futs k = .resultExc exc) := by
  obtain ⟨h1, h2, h3, -, h5, h6, h7, h8, h9⟩ := connection_lost_eq g (absG g) exc hw (rel_absG g)
  have he := (connection_lost_eq g (absG g) (some .connectionReset) hw (rel_absG g)).1
  refine ⟨h1, by rw [eof_received_eq]; exact he, h5, h6, ?_, ?_, h9⟩
  · intro i hi hp
    have hw' := (h8 i hi).trans (congrArg absF hp)
    rw [connectionLost_waitFut, (rel_absG g).attr hi] at hw'
    split at hw'
    · cases hw'
    · next hn => exact hn (congrArg some hw')
  · intro j hj hp
    have hst := h3.st
    rw [h7, hj, connectionLost_startupFut] at hst
    split at hst
    · simp [cell, hp, absF_p] at hst
    · next hn => exact hn (hst.trans (by simp [cell, hp, absF_p]))

/-- non-vacuity: a gateway with a reset request, a start-up waiter and the connection-done future, all pending, is
well formed; losing the connection resolves all three and tells the application -/
example : WF ({ reset_future := some 0, startup_reset_future := some 1, connection_done_future := some 2,
                futs := [.pending, .pending, .pending] } : Gateway) := by
  constructor <;> simp

example : Gateway.connection_lost (some (.other 7))
      { reset_future := some 0, startup_reset_future := some 1, connection_done_future := some 2,
        futs := [.pending, .pending, .pending] } =
    (.ok (), { reset_future := none, startup_reset_future := some 1, connection_done_future := none,
               futs := [.exc (.other 7), .exc (.other 7), .resultExc (some (.other 7))],
               trace := [.appConnectionLost (some (.other 7))] }) := by decide +kernel

example : (Gateway.reset_received 11 { reset_future := some 0, futs := [.pending] }).2.futs = [.result] := by decide +kernel
example : (Gateway.reset_received 2 { reset_future := some 0, futs := [.pending] }).2.trace = [.appEnterFailed 2] := by
  decide +kernel

/-! #### the coroutine `Gateway.reset` itself (BV/Gen/SrcUartReset.lean), against a script of what reaches the gateway while it is
suspended - every input goes through the generated handlers above; the done-callback `_reset_cleanup` runs between loop iterations.
The deadline `some 5` is the translator's value of RESET_TIMEOUT (`BV.Gen.Ash.resetTimeout = (5, 1)`, seconds as a fraction); `gAwait`
only tells a timed wait from an untimed one, when the deadline falls is the script's `fin`. -/
open BV.Src.UartReset BV.Proofs.Src.UartReset

/-- **a fresh request sends RST once, first, and waits on a new future with a deadline of RESET_TIMEOUT = 5 s; a request while one
is in progress sends nothing and shares that request's future** (source level) -/
theorem c11_src_reset_request (g : Gateway) :
    (g.reset_future = none → g.transport = some () →
      Gateway.reset g = gAwait (some g.futs.length) (some 5) (requested g)) ∧
    (∀ f, g.reset_future = some f → Gateway.reset g = gAwait (some f) none g) :=
  ⟨reset_fresh g, fun f hr => by simp [Gateway.reset, hr]⟩

/-- **completes only on the software-reset acknowledgement** (source level): if a fresh `reset()` returns, an RSTACK with code
0x0B reached the gateway while it waited - whatever else arrived (other reset codes, ERROR frames, data, a lost connection, EOF),
in whatever grouping into loop iterations, and however the script would have ended the wait -/
theorem c11_src_reset_only_ack (g : Gateway) (b : Bool) (hr : g.reset_future = none) (ht : g.transport = some ())
    (h : (Gateway.reset g).1 = .ok b) :
    ∃ w rest, g.script = w :: rest ∧ ∃ r ∈ w.rounds, GIn.rstack 11 ∈ r := by
  rw [reset_fresh g hr ht] at h
  obtain ⟨w, rest, hs, hres⟩ := gAwait_ok (by simp [gFutDone, requested, GFut.done]) h
  refine ⟨w, rest, hs, Classical.byContradiction fun hno => ?_⟩
  exact pres_rounds g.futs.length g.futs.length w.rounds (fun r hr' hm => hno ⟨r, hr', hm⟩) _ (by simp [requested]) hres

section
/- one wait of a fresh request on a given script: each `simp` below runs `gAwait` on the script shape its theorem names - the
first round through the generated handler, the done-callback, then the wake-up or the deadline -/
attribute [local simp] bind PyM.bind pure PyM.pure gAwait gFutDone gRounds gRound gDeliver gRunCleanups gEach requested GFut.done Gateway.u_reset_cleanup

/-- **the acknowledgement completes it; the clean-up has run before the caller goes on** (source level) -/
theorem c11_src_reset_ack (g : Gateway) (more : List (List GIn)) (fin : GEnd) (rest : List GWait) (hr : g.reset_future = none)
    (ht : g.transport = some ()) (hs : g.script = ⟨[.rstack 11] :: more, fin⟩ :: rest) (hc : g.cleanups = []) :
    Gateway.reset g = (.ok true,
      { requested g with script := rest, futs := g.futs ++ [.result], reset_future := none, cleanups := [] }) := by
  rw [reset_fresh g hr ht]
  simp [hs, hc, Gateway.reset_received, gfutDone, gfutSet]

/-- **no acknowledgement: TimeoutError, and the request is gone** (source level) - `_reset_future` is clear again, so the next
`reset()` is a fresh request that sends RST again (an abandoned request does not block the next one); any other reset code in
between is reported to the application as an NCP failure and does not complete the request -/
theorem c11_src_reset_timeout (g : Gateway) (rest : List GWait) (hr : g.reset_future = none) (ht : g.transport = some ())
    (hc : g.cleanups = []) :
    (g.script = ⟨[], .deadline⟩ :: rest →
      Gateway.reset g = (.error (.raised "TimeoutError"),
        { requested g with script := rest, futs := g.futs ++ [.cancelled], reset_future := none, cleanups := [] })) ∧
    (∀ code, code ≠ 11 → g.script = ⟨[[.rstack code]], .deadline⟩ :: rest →
      Gateway.reset g = (.error (.raised "TimeoutError"),
        { requested g with script := rest, futs := g.futs ++ [.cancelled], reset_future := none, cleanups := [],
                           trace := g.trace ++ [.transportSendReset, .appEnterFailed code] })) := by
  rw [reset_fresh g hr ht]
  exact ⟨fun hs => by simp [hs, hc], fun code hcode hs => by simp [hs, hc, reset_received_other _ code hcode]⟩

/-- **a lost connection ends the request at once with the reason** (source level) -/
theorem c11_src_reset_lost (g : Gateway) (exc : Option ExcVal) (more : List (List GIn)) (fin : GEnd) (rest : List GWait)
    (hr : g.reset_future = none) (ht : g.transport = some ()) (hsf : g.startup_reset_future = none)
    (hcd : g.connection_done_future = none) (hs : g.script = ⟨[.lost exc] :: more, fin⟩ :: rest) (hc : g.cleanups = []) :
    (Gateway.reset g).1 = .error (.raised (excCls (exc.getD .connectionReset))) ∧ (Gateway.reset g).2.reset_future = none := by
  rw [reset_fresh g hr ht]
  cases exc <;> simp [hs, hc, hsf, hcd, Gateway.connection_lost, gfutDone, gfutSet, gemit]

end

/-- non-vacuity: a fresh gateway, the acknowledgement in the second loop iteration after an ERROR frame -/
example : (Gateway.reset { script := [⟨[[.error 0x51], [.rstack 11]], .deadline⟩] }).1 = .ok true := by decide +kernel
example : (Gateway.reset { script := [⟨[[.error 0x51], [.rstack 2]], .deadline⟩] }).1 = .error (.raised "TimeoutError") := by
  decide +kernel

end Src

end BV.Props.C11
