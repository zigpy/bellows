/-
C18 — Status normalisation is total and reports success only for success.
The model is BV/Model/Status.lean, the table is generated.
-/
import BV.Model.Status
namespace BV.Props.C18
open BV.Status BV.Gen.Status

/-- Unified statuses are returned unchanged (every value, defined or not). `conv` is a total
function, so "never raises" is its type. -/
theorem c18_total_passthrough (x : Nat) : conv (.sl x) = x := rfl

theorem lookup_mem {fam code u : Nat} {m : List (Nat × Nat × Nat)} (h : lookup fam code m = some u) :
    (fam, code, u) ∈ m := by
  induction m with
  | nil => cases h
  | cons r rest ih =>
    obtain ⟨f, c, w⟩ := r
    unfold lookup at h
    split at h
    · rename_i e; cases h; simp [e.1, e.2]
    · exact List.mem_cons_of_mem _ (ih h)

/-- OK comes out of the table only for code 0 (the two SUCCESS rows), and the fallback is not OK -/
theorem ok_iff_zero (fam c : Nat) (hf : (lookup fam 0 statusMap).getD slFAIL = slOK) :
    (lookup fam c statusMap).getD slFAIL = slOK ↔ c = 0 := by
  refine ⟨fun h => ?_, fun h => h ▸ hf⟩
  cases hl : lookup fam c statusMap with
  | none => rw [hl] at h; cases h
  | some u =>
    rw [hl] at h
    have hrows : ∀ r ∈ statusMap, r.2.2 = slOK → r.2.1 = 0 := by decide +kernel
    exact hrows _ (lookup_mem hl) h

-- `c = emberSuccess` / `c = ezspSuccess` below are `ok_iff_zero`'s `c = 0` by unfolding the generated constants
-- (`c18_success_codes`): a success code other than 0 would show as a type mismatch here.
/-- For every code of each 8-bit family: the result is OK exactly for that family's success code. -/
theorem c18_ok_iff_success_ember (c : Nat) (hc : c < 256) :
    conv (.ember c) = slOK ↔ c = emberSuccess := ok_iff_zero 0 c (by decide +kernel)

theorem c18_ok_iff_success_ezsp (c : Nat) (hc : c < 256) :
    conv (.ezsp c) = slOK ↔ c = ezspSuccess := ok_iff_zero 1 c (by decide +kernel)

/-- success codes are the protocol's (0 in both families), OK is 0 -/
theorem c18_success_codes : emberSuccess = 0 ∧ ezspSuccess = 0 ∧ slOK = 0 ∧ slFAIL = 1 := by decide

/-- The steering codes (EmberZNet numeric values, written out literally – this table is the
specification side): busy, not-joined, not-found, erased entry, index out of range,
network up / down. -/
theorem c18_steering_codes :
    conv (.ember 0x72) = 0x0C03 ∧      -- MAX_MESSAGE_LIMIT_REACHED → ZIGBEE_MAX_MESSAGE_LIMIT_REACHED
    conv (.ember 0xA1) = 0x0C03 ∧      -- NETWORK_BUSY → ZIGBEE_MAX_MESSAGE_LIMIT_REACHED
    conv (.ember 0x18) = 0x0019 ∧      -- NO_BUFFERS → ALLOCATION_FAILED
    conv (.ember 0x93) = 0x0017 ∧      -- NOT_JOINED → NOT_JOINED
    conv (.ember 0x90) = 0x0015 ∧      -- NETWORK_UP
    conv (.ember 0x91) = 0x0016 ∧      -- NETWORK_DOWN
    conv (.ember 0x03) = 0x002D ∧      -- NOT_FOUND → NOT_FOUND
    conv (.ember 0xB6) = 0x002D ∧      -- TABLE_ENTRY_ERASED → NOT_FOUND
    conv (.ember 0xB1) = 0x0027 ∧      -- INDEX_OUT_OF_RANGE → INVALID_INDEX
    conv (.ember 0x66) = 0x0C02 ∧      -- DELIVERY_FAILED → ZIGBEE_DELIVERY_FAILED
    True := by decide +kernel

/-- the lookup never meets a repeated key, so first-match = Python's last-wins dict literal -/
theorem c18_map_keys_unique :
    (statusMap.map fun r => (r.1, r.2.1)).Nodup := by decide +kernel

/-- every value in the table is < 2^32 and every key is an 8-bit code of family 0/1 -/
theorem c18_map_wellformed :
    statusMap.all (fun r => r.1 < 2 && r.2.1 < 256 && r.2.2 < 2^32) = true := by decide +kernel

end BV.Props.C18
