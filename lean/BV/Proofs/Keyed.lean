/-
Lists whose elements carry a key that does not repeat (the dicts, command tables and callback
registries of the models): the key determines the element, so a search by key finds exactly it.
At the end, what appending one element does to `Pairwise` and `Nodup` (FIFO channels, dict assignment).
-/
namespace List
variable {α : Type _} {κ : Type _} (f : α → κ)

theorem eq_of_nodup_map {l : List α} (h : (l.map f).Nodup) {a b : α} (ha : a ∈ l) (hb : b ∈ l)
    (e : f a = f b) : a = b := by
  induction l with
  | nil => cases ha
  | cons x xs ih =>
    rw [map_cons, nodup_cons] at h
    rcases mem_cons.mp ha with rfl | ha' <;> rcases mem_cons.mp hb with rfl | hb'
    · rfl
    · exact absurd (e ▸ mem_map_of_mem hb') h.1
    · exact absurd (e ▸ mem_map_of_mem ha') h.1
    · exact ih h.2 ha' hb'

theorem find?_key_eq_some [BEq κ] [LawfulBEq κ] {l : List α} (h : (l.map f).Nodup) {k : κ} {a : α} :
    l.find? (f · == k) = some a ↔ a ∈ l ∧ f a = k := by
  refine ⟨fun h' => ⟨mem_of_find?_eq_some h', by simpa using find?_some h'⟩, ?_⟩
  rintro ⟨ha, rfl⟩
  cases hb : l.find? (f · == f a) with
  | none => exact absurd (beq_self_eq_true _) (find?_eq_none.mp hb a ha)
  | some b => rw [eq_of_nodup_map f h (mem_of_find?_eq_some hb) ha (by simpa using find?_some hb)]

theorem mem_of_lookup_eq_some {β : Type _} [BEq κ] [LawfulBEq κ] {l : List (κ × β)} {k : κ} {v : β}
    (h : l.lookup k = some v) : (k, v) ∈ l := by
  obtain ⟨l₁, l₂, rfl, -⟩ := lookup_eq_some_iff.mp h
  simp

theorem lookup_eq_some_of_mem {β : Type _} [BEq κ] [LawfulBEq κ] {l : List (κ × β)} (h : (l.map (·.1)).Nodup) {k : κ} {v : β}
    (hm : (k, v) ∈ l) : l.lookup k = some v := by
  cases hb : l.lookup k with
  | none => exact absurd (beq_self_eq_true k) (by simpa using lookup_eq_none_iff.mp hb _ hm)
  | some w => exact congrArg (fun p => some p.2) (eq_of_nodup_map (·.1) h (mem_of_lookup_eq_some hb) hm rfl)

theorem lookup_ext {β : Type _} [BEq κ] [LawfulBEq κ] {l₁ l₂ : List (κ × β)}
    (h₁ : ∀ p ∈ l₁, l₁.lookup p.1 = l₂.lookup p.1) (h₂ : ∀ p ∈ l₂, l₁.lookup p.1 = l₂.lookup p.1) (k : κ) :
    l₁.lookup k = l₂.lookup k := by
  cases e₁ : l₁.lookup k with
  | some v => rw [← e₁]; exact h₁ _ (mem_of_lookup_eq_some e₁)
  | none =>
    cases e₂ : l₂.lookup k with
    | some v => rw [← e₁, ← e₂]; exact h₂ _ (mem_of_lookup_eq_some e₂)
    | none => rfl

theorem lookup_map_pair {β : Type _} [BEq κ] [LawfulBEq κ] (g : α → β) (l : List α) (k : κ) :
    (l.map fun a => (f a, g a)).lookup k = (l.find? (f · == k)).map g := by
  induction l with
  | nil => rfl
  | cons a l ih =>
    rw [map_cons, lookup_cons, find?_cons, BEq.comm (a := k)]
    cases f a == k
    · exact ih
    · rfl

theorem lookup_map_snd {β γ : Type _} [BEq κ] (g : β → γ) (l : List (κ × β)) (k : κ) :
    (l.map fun p => (p.1, g p.2)).lookup k = (l.lookup k).map g := by
  induction l with
  | nil => rfl
  | cons p l ih =>
    rw [map_cons, lookup_cons, lookup_cons]
    cases k == p.1
    · exact ih
    · rfl

theorem pairwise_snoc {R : α → α → Prop} {l : List α} {a : α} (h : l.Pairwise R) (ha : ∀ x ∈ l, R x a) :
    (l ++ [a]).Pairwise R :=
  pairwise_append.mpr ⟨h, pairwise_singleton _ _, fun x hx _ hy => mem_singleton.mp hy ▸ ha x hx⟩

theorem nodup_snoc {l : List α} {a : α} (h : l.Nodup) (ha : a ∉ l) : (l ++ [a]).Nodup :=
  pairwise_snoc h fun _ hx e => ha (e ▸ hx)

end List
