/-
Source-level tie for bellows/ash.py: the definitions generated from the *syntax tree* of the
repository under test (BV/Gen/SrcAsh.lean, written by harness/pytrans.py on every run) are proved
equal to the hand-written models that the C02/C03/C04 theorems are about.  A change to the source
regenerates SrcAsh.lean; these theorems are then re-checked against what the code says now.

  generate_random_sequence(n)    = the specification's LFSR      (`generate_random_sequence_eq`, every n)
  _stuff_bytes / _unstuff_bytes  = Ash.stuff / Ash.unstuff      (induction over the byte string)
  AshFrame._unwrap / append_crc  = Ash.unwrap / Ash.appendCrc
  <Class>.to_bytes               = Ash.encode on well-formed frames
  parse_frame                    = Ash.parse on every byte string

The source computes on ints, the model on `UInt8`; the bridge is `UInt8.toNat` (injective, commutes with the bit
operations), so no fact about a byte needs its 256 values enumerated.
`binascii.crc_hqx` is the bitwise CRC of BV.Model.Ash.Crc on both sides (BV/Py/AshEnv.lean).
-/
import BV.Gen.SrcAsh
import BV.Model.Ash.Frame
import BV.Spec.AshFrame
namespace BV.Proofs.Src.Ash
open BV.Py BV.Gen.Ash
open BV.Src.Ash (Frame FrameCls)
open BV.Ash (Cls PErr bit)


theorem bytesOf_toNat (bs : List UInt8) : bytesOf (bs.map UInt8.toNat) = .ok bs := by
  have h : (bs.map UInt8.toNat).all (· < 256) = true := by
    simpa using fun x _ => x.toNat_lt
  have h2 : UInt8.ofNat ∘ UInt8.toNat = id := funext fun _ => UInt8.ofNat_toNat
  simp [bytesOf, h, h2]

theorem contains_toNat (l : List UInt8) (b : UInt8) : (l.map UInt8.toNat).contains b.toNat = l.contains b := by
  simp [UInt8.toNat_inj]

theorem mask_iff (c m v : UInt8) : c.toNat &&& m.toNat = v.toNat ↔ (c &&& m == v) = true := by
  rw [beq_iff_eq, ← UInt8.toNat_inj, UInt8.toNat_and]

theorem reserved_bytes_eq : BV.Src.Ash.C_RESERVED_BYTES = reservedBytes.map UInt8.toNat := by decide

theorem t1 : ∀ b : UInt8, BV.Src.Ash.C_RESERVED_BYTES.contains b.toNat = BV.Ash.isReserved b := by
  intro b; rw [reserved_bytes_eq, contains_toNat]; rfl
theorem t2 : ∀ b : UInt8, bytesOf [125, b.toNat ^^^ 32] = .ok [resEscape, b ^^^ 0x20] :=
  fun b => bytesOf_toNat [resEscape, b ^^^ 0x20]
theorem t3 : ∀ b : UInt8, bytesOf [b.toNat] = .ok [b] := fun b => bytesOf_toNat [b]
theorem t4 : ∀ b : UInt8, BV.Src.Ash.C_RESERVED_BYTES.contains (b.toNat ^^^ 32) = BV.Ash.isReserved (b ^^^ 0x20) :=
  fun b => t1 (b ^^^ 0x20)
theorem t5 : ∀ b : UInt8, bytesOf [b.toNat ^^^ 32] = .ok [b ^^^ 0x20] := fun b => t3 (b ^^^ 0x20)
theorem t6 : ∀ b : UInt8, decide (b.toNat = 125) = (b == resEscape) :=
  fun _ => decide_eq_decide.mpr (UInt8.toNat_inj (b := resEscape))

open BV.Spec.Ash (lfsrStep) in
theorem lfsrStep_lt {r : Nat} (h : r < 256) : lfsrStep r < 256 := by
  unfold lfsrStep
  split
  · omega
  · exact Nat.xor_lt_two_pow (n := 8) (by omega) (by decide)

open BV.Spec.Ash (lfsr lfsrStep) in
/-- the loop ignores its index: each round emits the register (which stays a byte) and steps it -/
theorem lfsr_loop (xs : List Nat) (out : List UInt8) (r : Nat) (hr : r < 256) :
    ∃ r', forE BV.Src.Ash.generate_random_sequence.loop1 xs (out, r) = .ok (.done (out ++ lfsr xs.length r, r') false) := by
  induction xs generalizing out r with
  | nil => exact ⟨r, by simp [forE, lfsr]⟩
  | cons x xs ih =>
    obtain ⟨r', h⟩ := ih (out ++ [UInt8.ofNat r]) _ (lfsrStep_lt hr)
    refine ⟨r', ?_⟩
    have hb : bytesOf [r] = .ok [UInt8.ofNat r] := by simp [bytesOf, hr]
    have hs : (if decide (r &&& 1 = 0) then (pure (r >>> 1) : Except PyErr Nat) else pure (r >>> 1 ^^^ 184)) =
        .ok (lfsrStep r) := by
      simp only [lfsrStep, Nat.and_one_is_mod, Nat.shiftRight_succ, Nat.shiftRight_zero, decide_eq_true_eq]
      split <;> rfl
    simp only [forE, BV.Src.Ash.generate_random_sequence.loop1, hb, bind, Except.bind]
    rw [hs]
    simpa [lfsr, pure, Except.pure] using h

theorem generate_random_sequence_eq (n : Nat) :
    BV.Src.Ash.generate_random_sequence n = .ok (BV.Spec.Ash.lfsr n 0x42) := by
  obtain ⟨r', h⟩ := lfsr_loop (rangeN n) [] 66 (by decide)
  simp [BV.Src.Ash.generate_random_sequence, h, LoopRes.noRet, bind, Except.bind, pure, Except.pure]
  simp [rangeN]

theorem stuff_body (b : UInt8) (out : List UInt8) :
    BV.Src.Ash.stuff_bytes.loop1 out b.toNat =
      .ok (.next (out ++ (if BV.Ash.isReserved b then [resEscape, b ^^^ 0x20] else [b]))) := by
  simp only [BV.Src.Ash.stuff_bytes.loop1, t1, t2, t3]
  split <;> rfl

theorem stuff_loop (bs : List UInt8) (out : List UInt8) :
    forE BV.Src.Ash.stuff_bytes.loop1 (ints bs) out = .ok (.done (out ++ BV.Ash.stuff bs) false) := by
  induction bs generalizing out with
  | nil => simp [ints, forE, BV.Ash.stuff]
  | cons b bs ih =>
    have := ih
    simp only [ints, List.map_cons] at this ⊢
    simp only [forE, stuff_body, this, BV.Ash.stuff]
    split <;> simp

theorem stuff_eq (bs : List UInt8) : BV.Src.Ash.stuff_bytes bs = .ok (BV.Ash.stuff bs) := by
  simp [BV.Src.Ash.stuff_bytes, stuff_loop, LoopRes.noRet, bind, Except.bind, pure, Except.pure]

def unstuffRes (out : List UInt8) : Option (List UInt8) → Except PyErr (List UInt8)
  | some r => .ok (out ++ r)
  | none => .error (.raised "ParsingError")

theorem unstuff_body (b : UInt8) (out : List UInt8) (esc : Bool) :
    BV.Src.Ash.unstuff_bytes.loop1 (out, esc) b.toNat =
      if esc then
        (if BV.Ash.isReserved (b ^^^ 0x20) then .ok (.next (out ++ [b ^^^ 0x20], false)) else .error (.raised "ParsingError"))
      else if b == resEscape then .ok (.next (out, true)) else .ok (.next (out ++ [b], false)) := by
  simp only [BV.Src.Ash.unstuff_bytes.loop1, t3, t4, t5, t6]
  cases esc
  · cases b == resEscape <;> rfl
  · cases BV.Ash.isReserved (b ^^^ 0x20) <;> rfl

theorem unstuffRes_snoc (out : List UInt8) (b : UInt8) (x : Option (List UInt8)) :
    unstuffRes (out ++ [b]) x = unstuffRes out (x.map (b :: ·)) := by
  cases x <;> simp [unstuffRes]

theorem unstuff_loop (bs : List UInt8) (out : List UInt8) (esc : Bool) :
    (forE BV.Src.Ash.unstuff_bytes.loop1 (ints bs) (out, esc)).map (fun r => (LoopRes.noRet r).1.1) =
      unstuffRes out (BV.Ash.unstuffAux esc bs) := by
  induction bs generalizing out esc with
  | nil => cases esc <;> simp [ints, forE, BV.Ash.unstuffAux, unstuffRes, LoopRes.noRet, Except.map]
  | cons b bs ih =>
    simp only [ints, List.map_cons, forE, unstuff_body] at ih ⊢
    cases esc
    · cases h : b == resEscape
      · simpa only [BV.Ash.unstuffAux, h, Bool.false_eq_true, ↓reduceIte, ← unstuffRes_snoc] using ih (out ++ [b]) false
      · simpa only [BV.Ash.unstuffAux, h, Bool.false_eq_true, ↓reduceIte] using ih out true
    · cases h : BV.Ash.isReserved (b ^^^ 0x20)
      · simp [BV.Ash.unstuffAux, h, unstuffRes, Except.map]
      · simpa only [BV.Ash.unstuffAux, h, ↓reduceIte, ← unstuffRes_snoc] using ih (out ++ [b ^^^ 0x20]) false

theorem unstuff_eq (bs : List UInt8) :
    BV.Src.Ash.unstuff_bytes bs = unstuffRes [] (BV.Ash.unstuff bs) := by
  have := unstuff_loop bs [] false
  simp only [BV.Src.Ash.unstuff_bytes, BV.Ash.unstuff]
  rw [← this]
  cases forE BV.Src.Ash.unstuff_bytes.loop1 (ints bs) ([], false) <;>
    simp [bind, Except.bind, pure, Except.pure, Except.map, LoopRes.noRet]

theorem crcHqx_eq (bs : List UInt8) : crcHqx bs 65535 = (BV.Ash.crc bs).toNat := rfl

theorem crc_bytes (bs : List UInt8) : toBytes2Big (crcHqx bs 65535) = .ok (BV.Ash.crcBytes (BV.Ash.crc bs)) := by
  have h : (BV.Ash.crc bs).toNat < 65536 := (BV.Ash.crc bs).isLt
  rw [crcHqx_eq]
  simp [toBytes2Big, h, BV.Ash.crcBytes]

theorem append_crc_eq (bs : List UInt8) : BV.Src.Ash.AshFrame.append_crc bs = .ok (BV.Ash.appendCrc bs) := by
  simp [BV.Src.Ash.AshFrame.append_crc, crc_bytes, BV.Ash.appendCrc, bind, Except.bind, pure, Except.pure]

/-- which exception the source raises: `data[0]` on empty input IndexError, the `assert` in `_randomize` AssertionError,
every explicit `raise` ParsingError -/
def pyName : PErr → String
  | .empty => "IndexError"
  | .tooLong => "AssertionError"
  | _ => "ParsingError"

def unwrapRes : Except PErr (UInt8 × List UInt8) → Except PyErr (Nat × List UInt8)
  | .ok (c, rest) => .ok (c.toNat, rest)
  | .error e => .error (.raised (pyName e))

theorem unwrap_eq (d : List UInt8) : BV.Src.Ash.AshFrame.unwrap d = unwrapRes (BV.Ash.unwrap d) := by
  simp only [BV.Src.Ash.AshFrame.unwrap, BV.Ash.unwrap, crc_bytes, sliceToNeg, sliceFromNeg, sliceMid]
  by_cases h3 : d.length < 3
  · simp [h3, unwrapRes, pyName, throw, throwThe, MonadExceptOf.throw]
  · simp only [h3, decide_false, Bool.false_eq_true, ↓reduceIte]
    by_cases hc : BV.Ash.crcBytes (BV.Ash.crc (List.take (d.length - 2) d)) = List.drop (d.length - 2) d
    · cases d with
      | nil => simp at h3
      | cons c d' =>
        have hl : 2 ≤ d'.length := by simp at h3; omega
        have ht : List.take ((c :: d').length - 2) (c :: d') = c :: List.take (d'.length - 2) d' := by
          have : (c :: d').length - 2 = (d'.length - 2) + 1 := by simp; omega
          rw [this, List.take_succ_cons]
        rw [ht] at hc ⊢
        simp [hc, bind, Except.bind, pure, Except.pure, unwrapRes, byteAt]
    · simp [hc, bind, Except.bind, unwrapRes, pyName, throw, throwThe, MonadExceptOf.throw]

theorem prs_eq : BV.Src.Ash.C_PSEUDO_RANDOM_DATA_SEQUENCE = pseudoRandom := by decide +kernel

theorem zip_xor (a b : List UInt8) :
    zipWithL (fun x y => x ^^^ y) (ints a) (ints b) = (BV.Ash.xorSeq a b).map UInt8.toNat := by
  induction a generalizing b with
  | nil => simp [ints, zipWithL, BV.Ash.xorSeq]
  | cons x xs ih =>
    cases b with
    | nil => simp [ints, zipWithL, BV.Ash.xorSeq]
    | cons y ys =>
      have := ih ys
      simp only [ints] at this ⊢
      simp [zipWithL, BV.Ash.xorSeq, this, UInt8.toNat_xor]

theorem randomize_eq (d : List UInt8) :
    BV.Src.Ash.DataFrame.randomize d =
      if d.length ≤ pseudoRandom.length then .ok (BV.Ash.randomize d) else .error (.raised "AssertionError") := by
  simp only [BV.Src.Ash.DataFrame.randomize, prs_eq, zip_xor, bytesOf_toNat, BV.Ash.randomize]
  by_cases h : d.length ≤ pseudoRandom.length <;>
    simp [h, throw, throwThe, MonadExceptOf.throw]

def toM : Frame → BV.Ash.Frame
  | .DataFrame f r a p => .data f (r != 0) a p
  | .AckFrame res n a => .ack (res != 0) (n != 0) a
  | .NakFrame res n a => .nak (res != 0) (n != 0) a
  | .RstFrame => .rst
  | .RStackFrame v c => .rstack (UInt8.ofNat v) (UInt8.ofNat c)
  | .ErrorFrame v c => .error (UInt8.ofNat v) (UInt8.ofNat c)

/-- model frame -> the dataclass value the code holds for it (bools are the ints 0 / 1) -/
def ofM : BV.Ash.Frame → Frame
  | .data f r a p => .DataFrame f (b2n r) a p
  | .ack res n a => .AckFrame (b2n res) (b2n n) a
  | .nak res n a => .NakFrame (b2n res) (b2n n) a
  | .rst => .RstFrame
  | .rstack v c => .RStackFrame v.toNat c.toNat
  | .error v c => .ErrorFrame v.toNat c.toNat

theorem b2n_ne (r : Bool) : (b2n r != 0) = r := by cases r <;> rfl

theorem toM_ofM (f : BV.Ash.Frame) : toM (ofM f) = f := by
  cases f <;> simp only [toM, ofM, b2n_ne, UInt8.ofNat_toNat]

theorem ctl_data : ∀ f : Fin 8, ∀ r : Bool, ∀ a : Fin 8,
    bytesOf [(((0 ||| (f.val <<< 4)) ||| (b2n r <<< 3)) ||| (a.val <<< 0))] = .ok [BV.Ash.ctlData f.val r a.val] := by
  decide +kernel
theorem ctl_ack : ∀ f : Bool, ∀ r : Bool, ∀ a : Fin 8,
    bytesOf [(((128 ||| (b2n f <<< 4)) ||| (b2n r <<< 3)) ||| (a.val <<< 0))] = .ok [BV.Ash.ctlAck f r a.val] := by
  decide +kernel
theorem ctl_nak : ∀ f : Bool, ∀ r : Bool, ∀ a : Fin 8,
    bytesOf [(((160 ||| (b2n f <<< 4)) ||| (b2n r <<< 3)) ||| (a.val <<< 0))] = .ok [BV.Ash.ctlNak f r a.val] := by
  decide +kernel
/-- **every well-formed frame is written exactly as the model's `encode` says** (`frame.to_bytes()` of the source) -/
theorem to_bytes_eq (f : BV.Ash.Frame) (hw : f.WF) : Frame.to_bytes (ofM f) = .ok (BV.Ash.encode f) := by
  cases f with
  | data f r a p =>
    obtain ⟨hf, ha, hp⟩ := hw
    simp only [Frame.to_bytes, ofM, BV.Src.Ash.DataFrame.to_bytes, randomize_eq, hp, append_crc_eq,
      ctl_data ⟨f, hf⟩ r ⟨a, ha⟩, bind, Except.bind, BV.Ash.encode, if_true, List.singleton_append]
  | ack res n a =>
    simp only [Frame.to_bytes, ofM, BV.Src.Ash.AckFrame.to_bytes, append_crc_eq, ctl_ack res n ⟨a, hw⟩, bind, Except.bind,
      BV.Ash.encode]
  | nak res n a =>
    simp only [Frame.to_bytes, ofM, BV.Src.Ash.NakFrame.to_bytes, append_crc_eq, ctl_nak res n ⟨a, hw⟩, bind, Except.bind,
      BV.Ash.encode]
  | rst =>
    have h : bytesOf [192] = .ok [rstMaskValue] := bytesOf_toNat [rstMaskValue]
    simp only [Frame.to_bytes, ofM, BV.Src.Ash.RstFrame.to_bytes, h, append_crc_eq, BV.Ash.encode, bind, Except.bind]
  | rstack v c =>
    cases (hw : v = 2)
    have h : bytesOf [193, (2 : UInt8).toNat, c.toNat] = .ok [rstackMaskValue, 2, c] := bytesOf_toNat [rstackMaskValue, 2, c]
    simp only [Frame.to_bytes, ofM, BV.Src.Ash.RStackFrame.to_bytes, h, append_crc_eq, BV.Ash.encode, bind, Except.bind]
  | error v c =>
    cases (hw : v = 2)
    have h : bytesOf [194, (2 : UInt8).toNat, c.toNat] = .ok [errorMaskValue, 2, c] := bytesOf_toNat [errorMaskValue, 2, c]
    simp only [Frame.to_bytes, ofM, BV.Src.Ash.ErrorFrame.to_bytes, h, append_crc_eq, BV.Ash.encode, bind, Except.bind]

theorem masks (c : UInt8) :
    ((c.toNat &&& 128 = 0) ↔ (c &&& dataMask == dataMaskValue) = true) ∧
    ((c.toNat &&& 224 = 128) ↔ (c &&& ackMask == ackMaskValue) = true) ∧
    ((c.toNat &&& 224 = 160) ↔ (c &&& nakMask == nakMaskValue) = true) ∧
    ((c.toNat &&& 255 = 192) ↔ (c &&& rstMask == rstMaskValue) = true) ∧
    ((c.toNat &&& 255 = 193) ↔ (c &&& rstackMask == rstackMaskValue) = true) ∧
    ((c.toNat &&& 255 = 194) ↔ (c &&& errorMask == errorMaskValue) = true) :=
  ⟨mask_iff c dataMask dataMaskValue, mask_iff c ackMask ackMaskValue, mask_iff c nakMask nakMaskValue,
   mask_iff c rstMask rstMaskValue, mask_iff c rstackMask rstackMaskValue, mask_iff c errorMask errorMaskValue⟩

theorem bit_eq (c m sh : UInt8) : bit c m sh = (c.toNat &&& m.toNat) >>> (sh.toNat % 8) := by
  simp [bit, UInt8.toNat_shiftRight, UInt8.toNat_and]

theorem bits : ∀ c : UInt8,
    (c.toNat &&& 112) >>> 4 = BV.Ash.bit c 0x70 4 ∧ (c.toNat &&& 8) >>> 3 = BV.Ash.bit c 0x08 3 ∧
    (c.toNat &&& 7) >>> 0 = BV.Ash.bit c 0x07 0 ∧ (c.toNat &&& 16) >>> 4 = BV.Ash.bit c 0x10 4 :=
  fun c => ⟨(bit_eq c 0x70 4).symm, (bit_eq c 0x08 3).symm, (bit_eq c 0x07 0).symm, (bit_eq c 0x10 4).symm⟩

theorem b2n_bit (c m sh : UInt8) (h : m.toNat >>> (sh.toNat % 8) ≤ 1) : b2n (bit c m sh != 0) = bit c m sh := by
  have : bit c m sh ≤ 1 := by
    rw [bit_eq]
    simp only [Nat.shiftRight_eq_div_pow] at h ⊢
    exact Nat.le_trans (Nat.div_le_div_right Nat.and_le_right) h
  generalize bit c m sh = x at this
  match x, this with
  | 0, _ => rfl
  | 1, _ => rfl

/-- what `parse_frame` of the source yields, read as a model frame -/
def parsed (d : List UInt8) : Option BV.Ash.Frame := (BV.Src.Ash.parse_frame d).toOption.map toM

def srcCls : Cls → FrameCls
  | .data => .DataFrame | .ack => .AckFrame | .nak => .NakFrame
  | .rst => .RstFrame | .rstack => .RStackFrame | .error => .ErrorFrame

/-- the model's parse result as the source's outcome -/
def ofRes : Except PErr BV.Ash.Frame → Except PyErr Frame
  | .ok f => .ok (ofM f)
  | .error e => .error (.raised (pyName e))

/-- `cls.from_bytes` of the model: what `parse` does once the class is chosen -/
def parseAs (cls : Cls) (d : List UInt8) : Except PErr BV.Ash.Frame :=
  match BV.Ash.unwrap d with
  | .error e => .error e
  | .ok (c, rest) =>
    match cls with
    | .data =>
      if rest.length > pseudoRandom.length then .error .tooLong
      else .ok (.data (bit c 0x70 4) (bit c 0x08 3 != 0) (bit c 0x07 0) (BV.Ash.randomize rest))
    | .ack => .ok (.ack (bit c 0x10 4 != 0) (bit c 0x08 3 != 0) (bit c 0x07 0))
    | .nak => .ok (.nak (bit c 0x10 4 != 0) (bit c 0x08 3 != 0) (bit c 0x07 0))
    | .rst => if rest.isEmpty then .ok .rst else .error .rstData
    | .rstack => (BV.Ash.rstackFields rest).map fun (v, code) => .rstack v code
    | .error => (BV.Ash.rstackFields rest).map fun (v, code) => .error v code

theorem parse_cons (c0 : UInt8) (r : List UInt8) :
    BV.Ash.parse (c0 :: r) = match BV.Ash.classify c0 with
      | none => .error .noClass
      | some cls => parseAs cls (c0 :: r) := by
  simp only [BV.Ash.parse, parseAs]
  cases BV.Ash.classify c0 <;> rfl

/-- the body shared by `RStackFrame.from_bytes` and `ErrorFrame.from_bytes` (one method of the source: `ErrorFrame.from_bytes` is an alias of `RStackFrame.from_bytes`) -/
theorem rstack_fields (rest : List UInt8) (mk : Nat → Nat → Frame) (mk' : UInt8 → UInt8 → BV.Ash.Frame)
    (hmk : ∀ v c : UInt8, mk v.toNat c.toNat = ofM (mk' v c)) :
    (do
        if (decide (rest.length ≠ 2)) then throw (PyErr.raised "ParsingError")
        else do
          let b23 ← byteAt rest 0
          if (decide (b23 ≠ 2)) then throw (PyErr.raised "ParsingError")
          else do
            let b24 ← byteAt rest 1
            pure (mk b23 b24) : Except PyErr Frame) =
      ofRes ((BV.Ash.rstackFields rest).map fun (v, code) => mk' v code) := by
  match rest with
  | [] | [_] | _ :: _ :: _ :: _ => rfl
  | [v, c] =>
    have hv : (v.toNat = 2) = (v = 2) := propext (UInt8.toNat_inj (b := 2))
    simp only [byteAt, bind, Except.bind, ne_eq, hv, BV.Ash.rstackFields, List.getElem?_cons_zero, List.getElem?_cons_succ]
    by_cases h : v = 2
    · subst h; simpa [ofRes, Except.map, pure, Except.pure] using hmk 2 c
    · simp [h, ofRes, Except.map, pyName, throw, throwThe, MonadExceptOf.throw]

theorem from_bytes_eq (cls : Cls) (d : List UInt8) : FrameCls.from_bytes (srcCls cls) d = ofRes (parseAs cls d) := by
  unfold parseAs
  cases cls <;>
    simp only [srcCls, FrameCls.from_bytes, BV.Src.Ash.DataFrame.from_bytes, BV.Src.Ash.AckFrame.from_bytes,
      BV.Src.Ash.NakFrame.from_bytes, BV.Src.Ash.RstFrame.from_bytes, BV.Src.Ash.RStackFrame.from_bytes,
      BV.Src.Ash.ErrorFrame.from_bytes, unwrap_eq] <;>
    rcases BV.Ash.unwrap d with e | ⟨c, rest⟩ <;>
    simp only [unwrapRes, bind, Except.bind, ofRes, randomize_eq]
  -- every class starts with `_unwrap`; where that fails the last `simp only` has closed the goal: six `ok` cases are left
  all_goals obtain ⟨b1, b2, b3, b4⟩ := bits c
  case data.ok =>
    by_cases h : rest.length ≤ pseudoRandom.length
    · simp [h, Nat.not_lt.mpr h, b1, b2, b3, ofM, b2n_bit, pure, Except.pure]
    · simp [h, Nat.lt_of_not_le h, pyName]
  case ack.ok => simp [b2, b3, b4, ofM, b2n_bit, pure, Except.pure]
  case nak.ok => simp [b2, b3, b4, ofM, b2n_bit, pure, Except.pure]
  case rst.ok => cases rest <;> rfl
  case rstack.ok => exact rstack_fields rest Frame.RStackFrame BV.Ash.Frame.rstack fun _ _ => rfl
  case error.ok => exact rstack_fields rest Frame.ErrorFrame BV.Ash.Frame.error fun _ _ => rfl

theorem parse_loop_cons (d : List UInt8) (c : Nat) (cls : FrameCls) (rest : List FrameCls) :
    forE (BV.Src.Ash.parse_frame.loop1 d c) (cls :: rest) () =
      if c &&& cls.MASK = cls.MASK_VALUE then (FrameCls.from_bytes cls d).map .ret
      else forE (BV.Src.Ash.parse_frame.loop1 d c) rest () := by
  simp only [forE, BV.Src.Ash.parse_frame.loop1, decide_eq_true_eq]
  by_cases h : c &&& cls.MASK = cls.MASK_VALUE
  · simp only [h, if_true]; cases FrameCls.from_bytes cls d <;> rfl
  · simp only [h, if_false]; rfl

/-- **`parse_frame` of the source = the model's `parse`** on every byte string: the same frame with the same fields, or
the exception standing for the model's error -/
theorem parse_frame_ofRes (d : List UInt8) : BV.Src.Ash.parse_frame d = ofRes (BV.Ash.parse d) := by
  cases d with
  | nil => rfl
  | cons c0 r =>
    obtain ⟨m1, m2, m3, m4, m5, m6⟩ := masks c0
    simp only [BV.Src.Ash.parse_frame, byteAt, List.getElem?_cons_zero, bind, Except.bind, parse_loop_cons]
    simp only [FrameCls.MASK, FrameCls.MASK_VALUE, m1, m2, m3, m4, m5, m6, parse_cons, BV.Ash.classify, forE]
    -- The first mask that matches selects the class on both sides.  In each of the six branches: decide the tests so far,
    -- turn the model side into that class's `from_bytes` (`from_bytes_eq`), and case on its result, which `Ctl.ret` passes
    -- out of the loop unchanged.  (The loop's continuation is a `match` of the generated file: a shared lemma cannot name it.)
    by_cases h1 : (c0 &&& dataMask == dataMaskValue) = true
    · simp only [h1, ↓reduceIte, ← from_bytes_eq, srcCls]
      generalize FrameCls.from_bytes _ _ = x; cases x <;> rfl
    by_cases h2 : (c0 &&& ackMask == ackMaskValue) = true
    · simp only [h1, h2, Bool.false_eq_true, ↓reduceIte, ← from_bytes_eq, srcCls]
      generalize FrameCls.from_bytes _ _ = x; cases x <;> rfl
    by_cases h3 : (c0 &&& nakMask == nakMaskValue) = true
    · simp only [h1, h2, h3, Bool.false_eq_true, ↓reduceIte, ← from_bytes_eq, srcCls]
      generalize FrameCls.from_bytes _ _ = x; cases x <;> rfl
    by_cases h4 : (c0 &&& rstMask == rstMaskValue) = true
    · simp only [h1, h2, h3, h4, Bool.false_eq_true, ↓reduceIte, ← from_bytes_eq, srcCls]
      generalize FrameCls.from_bytes _ _ = x; cases x <;> rfl
    by_cases h5 : (c0 &&& rstackMask == rstackMaskValue) = true
    · simp only [h1, h2, h3, h4, h5, Bool.false_eq_true, ↓reduceIte, ← from_bytes_eq, srcCls]
      generalize FrameCls.from_bytes _ _ = x; cases x <;> rfl
    by_cases h6 : (c0 &&& errorMask == errorMaskValue) = true
    · simp only [h1, h2, h3, h4, h5, h6, Bool.false_eq_true, ↓reduceIte, ← from_bytes_eq, srcCls]
      generalize FrameCls.from_bytes _ _ = x; cases x <;> rfl
    simp only [h1, h2, h3, h4, h5, h6, Bool.false_eq_true, ↓reduceIte]; rfl

theorem parse_frame_eq (d : List UInt8) : parsed d = (BV.Ash.parse d).toOption := by
  rw [parsed, parse_frame_ofRes]
  cases BV.Ash.parse d <;> simp [ofRes, Except.toOption, toM_ofM]

end BV.Proofs.Src.Ash
