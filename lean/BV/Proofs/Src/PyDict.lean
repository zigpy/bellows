/-
`d[k] = v` on the insertion-ordered dicts of the translated code (`BV.Py.dictSet`): an existing key keeps its
position and gets the new value, a new key goes last.
-/
import BV.Py.Prelude
import BV.Proofs.Keyed
namespace BV.Py
variable {β : Type} (d : List (Nat × β)) (k : Nat) (v : β)

theorem mem_dictSet {p : Nat × β} : p ∈ dictSet d k v ↔ p = (k, v) ∨ (p ∈ d ∧ p.1 ≠ k) := by
  unfold dictSet
  by_cases ha : d.any (·.1 == k) = true
  · obtain ⟨a, had, hak⟩ := List.any_eq_true.mp ha
    simp only [ha, ↓reduceIte, List.mem_map]
    constructor
    · rintro ⟨x, hx, rfl⟩
      by_cases hxk : (x.1 == k) = true
      · exact .inl (if_pos hxk)
      · exact .inr (by rw [if_neg hxk]; exact ⟨hx, by simpa using hxk⟩)
    · rintro (rfl | ⟨hp, hpk⟩)
      · exact ⟨a, had, if_pos hak⟩
      · exact ⟨p, hp, if_neg (by simpa using hpk)⟩
  · have hk : ∀ x ∈ d, x.1 ≠ k := fun x hx e => ha (List.any_eq_true.mpr ⟨x, hx, by simpa using e⟩)
    simp only [ha, Bool.false_eq_true, ↓reduceIte, List.mem_append, List.mem_singleton]
    exact ⟨fun h => h.symm.imp_right fun hp => ⟨hp, hk p hp⟩, fun h => h.symm.imp_left And.left⟩

theorem map_dictSet_of_not_mem (h : k ∉ d.map (·.1)) : d.map (fun kv => if kv.1 == k then (k, v) else kv) = d := by
  refine (List.map_congr_left fun p hp => ?_).trans (List.map_id d)
  have : p.1 ≠ k := fun e => h (e ▸ List.mem_map_of_mem hp)
  simp [this]

theorem keys_dictSet :
    (dictSet d k v).map (·.1) = if k ∈ d.map (·.1) then d.map (·.1) else d.map (·.1) ++ [k] := by
  unfold dictSet
  by_cases ha : d.any (·.1 == k) = true
  · have hk : k ∈ d.map (·.1) := by simpa using ha
    rw [if_pos ha, if_pos hk, List.map_map]
    exact List.map_congr_left fun x _ => by by_cases hx : x.1 = k <;> simp [hx]
  · have hk : k ∉ d.map (·.1) := by simpa using ha
    rw [if_neg ha, if_neg hk, List.map_append]; rfl

theorem nodup_keys_dictSet (h : (d.map (·.1)).Nodup) : ((dictSet d k v).map (·.1)).Nodup := by
  rw [keys_dictSet]
  split
  · exact h
  · exact List.nodup_snoc h ‹_›

end BV.Py
