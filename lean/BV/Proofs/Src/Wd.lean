/-
Source-level tie for `ControllerApplication._watchdog_feed` (bellows/zigbee/application.py), as generated from the syntax tree
(BV/Gen/SrcWd.lean: the awaited keep-alive calls are calls on a scripted command layer, the statements that only touch zigpy's
counter objects are pinned by their text and recorded as events): one feed is one step `BV.Watchdog.feed` of the hand-written model
the C19 theorems are about - which keep-alive is issued, how the failure count moves, and exactly when the feed raises.
-/
import BV.Gen.SrcWd
import BV.Model.Watchdog
import BV.Proofs.WatchdogLemmas
import BV.Proofs.Src.PyMSimp
namespace BV.Proofs.Src.Wd
open BV.Py BV.Src.Wd BV.Watchdog BV.Gen.App

def absW (a : WdApp) : Wd := { failures := a.failures, feedCounter := a.feed_counter }

/-- the exception classes the feed counts as a failed keep-alive (`except (asyncio.TimeoutError, EzspError)` with the subclasses
bellows defines) -/
def counted : List String := ["TimeoutError", "EzspError", "InvalidCommandError", "StackAlreadyRunning"]

def kaEv : KeepAlive → WEv
  | .nop => .nop
  | .readCounters => .readCounters
  | .readAndClearCounters => .readAndClearCounters

/-- what one feed of the source did, against the model's step for outcome `o`; `cls` is the class raised again when the model
says so (`""` with `.ok`, where nothing is).  The tie uses `.timeout` for every counted class: `feed` looks at `o.failed` only, so
`.ezspError` is the same step. -/
def FeedRel (a : WdApp) (r : Except PyErr Unit × WdApp) (o : Outcome) (cls : String) : Prop :=
  absW r.2 = (feed a.version (absW a) o).1 ∧
  r.1 = (if (feed a.version (absW a) o).2.1 then .error (.raised cls) else .ok ()) ∧
  (r.2.trace.drop a.trace.length).head? = some (kaEv (feed a.version (absW a) o).2.2) ∧
  r.2.version = a.version

/- the generated code carries the literals: 180 = EZSP_COUNTERS_CLEAR_IN_WATCHDOG_PERIODS, `> 4` = MAX_WATCHDOG_FAILURES, and
`version = 4` is the protocol version that has no counter commands (not the same 4) -/
theorem consts : countersClearPeriods = 180 ∧ maxWatchdogFailures = 4 := by decide

/-- both branches of the keep-alive choice make the same call, on a different command -/
theorem keepAlive_call (c : Prop) [Decidable c] (e₁ e₂ : WEv) :
    (if c then (do let r ← wcall e₁; let v ← PyM.lift (WResp.asUnit r); let x := v; pure x)
     else (do let r ← wcall e₂; let v ← PyM.lift (WResp.asUnit r); let x := v; pure x)) =
    (do let r ← wcall (if c then e₁ else e₂); let v ← PyM.lift (WResp.asUnit r); let x := v; pure x) := by split <;> rfl

theorem wemit_when (c : Prop) [Decidable c] (e : WEv) :
    (if c then (do wemit e; pure ()) else (do pure ())) =
      PyM.modify fun s => { s with trace := s.trace ++ if c then [e] else [] } := by
  funext s; split <;> simp [wemit]

/- the generated handler carries the literal tuple of its `except` clause, which is what `simp` has to meet; `counted` is that list -/
theorem caughtBy_counted {c : String} (hc : c ∈ counted) :
    PyErr.caughtBy (.raised c) ["TimeoutError", "EzspError", "InvalidCommandError", "StackAlreadyRunning"] = true := by
  simp only [counted, List.mem_cons, List.mem_nil_iff, or_false] at hc
  rcases hc with rfl | rfl | rfl | rfl <;> decide

/-- one evaluation of the generated feed into an explicit object: the choice of keep-alive and the periodic reset stay `if`s in
the trace (`keepAlive_call`, `wemit_when`), the same `if`s as in `feed_eq`.  `kaEv` is left folded for `apply_ite kaEv` to push it
into the `if` (unfolded first it is a `match` on an `if`); the callers unfold it last. -/
macro "wd_simp" : tactic => `(tactic|
  (simp only [watchdog_feed, keepAlive_call, wemit_when]
   simp [FeedRel, feed_eq, consts.1, consts.2, absW, Outcome.failed, apply_ite kaEv, pym, wcall, WResp.asUnit,
     WResp.asBuffers, wemit, PyM.ite_apply, *]))

/-- protocol version 4: the keep-alive is `nop`; answered -/
theorem feed_v4_ok (a : WdApp) (rest : List WResp) (hv : a.version = 4) (hs : a.script = .ok :: rest) :
    FeedRel a (watchdog_feed a) .ok "" ∧ (watchdog_feed a).2.script = rest := by
  wd_simp
  simp [kaEv]

/-- later versions: the keep-alive itself raises a counted class -/
theorem feed_fail_first (a : WdApp) (rest : List WResp) (c : String) (hc : c ∈ counted) (hv : a.version ≠ 4)
    (hs : a.script = .raises c :: rest) :
    FeedRel a (watchdog_feed a) .timeout c ∧ (watchdog_feed a).2.script = rest := by
  have hc := caughtBy_counted hc
  wd_simp
  -- left: the handler's `if self._watchdog_failures > MAX_WATCHDOG_FAILURES`, here `4 < a.failures + 1` (raise again / swallow)
  split <;> simp [kaEv]

/-- protocol version 4: the keep-alive raises a counted class -/
theorem feed_v4_fail (a : WdApp) (rest : List WResp) (c : String) (hc : c ∈ counted) (hv : a.version = 4)
    (hs : a.script = .raises c :: rest) :
    FeedRel a (watchdog_feed a) .timeout c ∧ (watchdog_feed a).2.script = rest := by
  have hc := caughtBy_counted hc
  wd_simp
  split <;> simp [kaEv]

/-- later versions: the counter read (or the periodic read-and-clear) and the free-buffer read are both answered -/
theorem feed_ok (a : WdApp) (rest : List WResp) (b : Option Nat) (hv : a.version ≠ 4)
    (hs : a.script = .ok :: .buffers b :: rest) :
    FeedRel a (watchdog_feed a) .ok "" ∧ (watchdog_feed a).2.script = rest := by
  wd_simp
  simp [kaEv]

/-- later versions: the keep-alive is answered, the free-buffer read that follows raises a counted class: a failed feed all the same -/
theorem feed_fail_second (a : WdApp) (rest : List WResp) (c : String) (hc : c ∈ counted) (hv : a.version ≠ 4)
    (hs : a.script = .ok :: .raises c :: rest) :
    FeedRel a (watchdog_feed a) .timeout c ∧ (watchdog_feed a).2.script = rest := by
  have hc := caughtBy_counted hc
  wd_simp
  split <;> simp [kaEv]

/-- an exception class the handler does not name goes straight through: the feed raises it and counts nothing -/
theorem feed_uncounted (a : WdApp) (rest : List WResp) (c : String) (hc : c ∉ counted) (hs : a.script = .raises c :: rest) :
    (watchdog_feed a).1 = .error (.raised c) ∧ (watchdog_feed a).2.failures = a.failures := by
  have hc : PyErr.caughtBy (.raised c) ["TimeoutError", "EzspError", "InvalidCommandError", "StackAlreadyRunning"] = false := by
    simpa [PyErr.caughtBy, counted] using hc
  simp only [watchdog_feed, keepAlive_call]
  by_cases hv : a.version = 4 <;> simp [pym, wcall, hv, hs, hc]

end BV.Proofs.Src.Wd
