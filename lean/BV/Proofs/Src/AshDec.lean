/-
Source-level proof for `AshProtocol.data_received` (bellows/ash.py): the definition that `harness/pytrans.py`
generates from the Python source (BV/Gen/SrcAsh.lean, regenerated on every run) computes what the hand-written
decoder model `BV.Ash.feedChunk` computes.  One round of the generated loop body (`data_received.loop1`) is one
`roundOf` step of the model's `scan`; the FLAG branch on a non-empty segment is `onSegment`; the `while` loop with
its fuel is `scan` followed by `onSegments`; the whole call (extend, loop, keep the last 1024 bytes) is `feedChunk`.
-/
import BV.Proofs.Src.AshRx
import BV.Model.Ash.Decoder
import BV.Proofs.Ash.DecLemmas
namespace BV.Proofs.Src.AshDec
open BV.Py BV.Gen.Ash BV.Proofs.Src.Ash BV.Proofs.Src.AshRx
open BV.Src.Ash (Frame)
open BV.Ash (splitRwe afterFlag scan onSegment onSegments Round bodyOf roundOf scan_round roundOf_go_lt scan_fuel)

theorem rwe_eq : BV.Src.Ash.C_RESERVED_WITHOUT_ESCAPE = reservedWithoutEscape.map UInt8.toNat := by decide

theorem rwe_contains (b : UInt8) :
    (BV.Src.Ash.C_RESERVED_WITHOUT_ESCAPE : List Nat).contains b.toNat = BV.Ash.isReservedNoEsc b := by
  rw [rwe_eq, contains_toNat]; rfl

theorem firstIdx_split (l : List UInt8) (k : Nat) :
    firstIdx (fun byte => (BV.Src.Ash.C_RESERVED_WITHOUT_ESCAPE : List Nat).contains byte) l k =
      (splitRwe l).map fun (pre, b, _) => (k + pre.length, b.toNat) := by
  induction l generalizing k with
  | nil => simp [firstIdx, splitRwe]
  | cons x xs ih =>
    simp only [firstIdx, splitRwe, rwe_contains]
    by_cases hx : BV.Ash.isReservedNoEsc x = true
    · simp [hx]
    · simp only [hx, Bool.false_eq_true, ↓reduceIte, ih (k + 1)]
      cases splitRwe xs with
      | none => simp
      | some p => obtain ⟨pre, b, rest⟩ := p; simp; omega

theorem split_slices {l pre rest : List UInt8} {b : UInt8} (h : splitRwe l = some (pre, b, rest)) :
    sliceTo l pre.length = pre ∧ sliceFrom l (pre.length + 1) = rest ∧ popAt l pre.length = .ok (pre ++ rest) := by
  obtain ⟨hl, -, -⟩ := BV.Ash.splitRwe_some h
  subst hl
  refine ⟨by simp [sliceTo], by simp [sliceFrom], ?_⟩
  simp [popAt, List.eraseIdx_append_of_length_le]

theorem contains_flag (l : List UInt8) : bytesContains1 [126] l = (afterFlag l).isSome := by
  induction l with
  | nil => simp [bytesContains1, afterFlag]
  | cons x xs ih =>
    simp only [bytesContains1, afterFlag] at ih ⊢
    by_cases hx : x = resFlag
    · subst hx; simp [resFlag]
    · have : (x == resFlag) = false := by simpa using hx
      have h126 : ¬ (x = 126) := hx
      simp [this, ← ih, Ne.symm h126]

theorem partition_flag (l : List UInt8) (q : List UInt8) (h : afterFlag l = some q) :
    (partition1 (UInt8.ofNat 126) l).2.2 = q := by
  induction l with
  | nil => simp [afterFlag] at h
  | cons x xs ih =>
    simp only [afterFlag] at h
    unfold partition1
    by_cases hx : x = 126
    · subst hx
      have : ((126 : UInt8) == resFlag) = true := by decide
      simp only [this, ↓reduceIte, Option.some.injEq] at h
      simp [h]
    · have h1 : (x == resFlag) = false := by simpa [resFlag] using hx
      have h2 : (x == UInt8.ofNat 126) = false := by simpa using hx
      simp only [h1, Bool.false_eq_true, ↓reduceIte] at h
      simp only [h2, Bool.false_eq_true, ↓reduceIte]
      exact ih h

theorem pyName_caught (e : BV.Ash.PErr) : (PyErr.raised (pyName e)).caughtBy [] = true := by
  cases e <;> decide

/-- what every run statement of this file concludes: the run from `s` ended in `s'` with this buffer and discarding flag,
and `s'` and the environment calls made are the model's `m` (`Sim`) -/
structure RanTo (s : S) (b' : List UInt8) (d' : Bool) (m : BV.Ash.Rx × List BV.Ash.Ev) (s' : S) : Prop where
  buf : s'.buffer = b'
  disc : s'.discarding = d'
  sim : Sim s m s'

/-- the state after the CANCEL-prefixed NAK that answers a segment which does not unstuff or parse -/
def nakd (s : S) : S := { s with trace := s.trace ++ [.write (BV.Ash.wire [resCancel] (.nak false false s.rx_seq))] }

theorem nak_write {s : S} (h : Inv s) :
    BV.Src.Ash.AshProtocol.u_write_frame (Frame.NakFrame 0 0 s.rx_seq) [26] [126] s = (.ok (), nakd s) := by
  have := write_frame_eq s (.nak false false s.rx_seq) h.rx [resCancel] [resFlag]
  simp only [ofM, b2n, List.map_cons, List.map_nil, Bool.false_eq_true, ↓reduceIte, h.opn] at this
  exact this.trans (by simp [BV.Ash.wire, nakd])

theorem nak_sim {s : S} (h : Inv s) (flag0 : Bool) :
    Sim s (absS s flag0, match BV.Ash.writeFrame (absS s flag0) [resCancel] (.nak false false (absS s flag0).rxSeq) with
        | some w => [w] | none => []) (nakd s) := by
  have ho : isOpen s = true := h.opn
  refine ⟨rfl, ?_, h.of_eq rfl rfl rfl rfl, List.prefix_append _ _⟩
  simp [srcEvs, toMEv, BV.Ash.writeFrame, absS, ho, nakd]

/-- the FLAG branch of the source for a non-empty segment = the model's `onSegment` (written out: the generated file
has the loop body as one definition, the branch has no name there) -/
theorem segment_eq (s : S) (h : Inv s) (flag0 : Bool) (seg : List UInt8) (data : List UInt8) :
    ∃ data' s', (do
        let r103 ← PyM.attempt (do
            let r101 ← PyM.lift (BV.Src.Ash.unstuff_bytes seg)
            let data_ := r101
            let r102 ← PyM.lift (BV.Src.Ash.parse_frame data_)
            let frame_ := r102
            pure (data_, frame_))
        match r103 with
        | .ok (data_, frame_) => do
          let r104 ← BV.Src.Ash.AshProtocol.frame_received frame_
          pure (Ctl.next data_)
        | .error e_ =>
          if PyErr.caughtBy e_ [] then do
            PyM.tryCatch (do
                let s105 ← PyM.get
                let r106 ← BV.Src.Ash.AshProtocol.u_write_frame (Frame.NakFrame 0 0 s105.rx_seq) [26] [126]
                pure ()) ["NcpFailure"] (pure ())
            pure (Ctl.next data)
          else PyM.throw e_ : PyM S (Ctl (List UInt8) Empty)) s = (.ok (.next data'), s') ∧
      RanTo s s.buffer s.discarding (onSegment (absS s flag0) seg) s' := by
  simp only [unstuff_eq, parse_frame_ofRes, onSegment]
  cases BV.Ash.unstuff seg with
  | none =>
    refine ⟨data, nakd s, ?_, rfl, rfl, nak_sim h flag0⟩
    simp [unstuffRes, baseOnly, pym, PyErr.caughtBy, nak_write h]
  | some d =>
    cases hp : BV.Ash.parse d with
    | error e =>
      simp only [hp]
      refine ⟨data, nakd s, ?_, rfl, rfl, nak_sim h flag0⟩
      simp [unstuffRes, ofRes, hp, pyName_caught, pym, nak_write h]
    | ok f =>
      obtain ⟨s', h1, h2, h3, h4⟩ := frame_received_open s h f flag0
      simp only [hp]
      exact ⟨d, s', by simp [unstuffRes, ofRes, hp, pym, h1], h3, h4, h2⟩

/-- `res`, the outcome of one call of the source's loop body in `s`, is what the model's round says -/
def SrcRound (s : S) (data : List UInt8) (flag0 : Bool) (res : Except PyErr (Ctl (List UInt8) Empty) × S) : Round → Prop
  | .stop b' d' => res = (.ok (.brk data), { s with buffer := b', discarding := d' })
  | .go b' d' none => res = (.ok (.next data), { s with buffer := b', discarding := d' })
  | .go b' d' (some seg) => ∃ data' s', res = (.ok (.next data'), s') ∧ RanTo s b' d' (onSegment (absS s flag0) seg) s'

/-- not discarding, the source's loop body is `bodyOf` (on an empty buffer both stop at once) -/
theorem body_src (s : S) (data : List UInt8) (h : Inv s) (flag0 : Bool) (hd : s.discarding = false) :
    SrcRound s data flag0 (BV.Src.Ash.AshProtocol.data_received.loop1 data s) (bodyOf s.buffer) := by
  rcases s with ⟨tr, b, d, pe, fu, tx, rx, rc, ns, trace⟩
  simp only at hd
  subst hd
  unfold bodyOf
  simp only
  by_cases hb : b.isEmpty = true
  · have : b = [] := by simpa using hb
    subst this
    simp [SrcRound, splitRwe, BV.Src.Ash.AshProtocol.data_received.loop1, pym]
  · have hemp : b.isEmpty = false := by simpa using hb
    cases hs : splitRwe b with
    | none =>
      simp only [SrcRound, BV.Src.Ash.AshProtocol.data_received.loop1, pym, hemp, Bool.not_false,
        Bool.not_true, Bool.false_eq_true, ↓reduceIte, firstIdx_split, hs, Option.map_none]
    | some p =>
      obtain ⟨pre, x, rest⟩ := p
      obtain ⟨sl1, sl2, sl3⟩ := split_slices hs
      obtain ⟨-, -, hx⟩ := BV.Ash.splitRwe_some hs
      simp only
      simp only [BV.Src.Ash.AshProtocol.data_received.loop1, pym, hemp, Bool.not_false,
        Bool.not_true, Bool.false_eq_true, ↓reduceIte, firstIdx_split, hs, Option.map_some, Nat.zero_add]
      rcases (BV.Ash.rwe_iff x).mp hx with rfl | rfl | rfl | rfl | rfl
      · simp [SrcRound, resFlag, resCancel, resSubstitute, pym, sl3]  -- XON: `pop`
      · simp [SrcRound, resFlag, resCancel, resSubstitute, pym, sl3]  -- XOFF: `pop`
      · simp [SrcRound, resFlag, resCancel, resSubstitute, pym, sl2]  -- SUBSTITUTE
      · simp [SrcRound, resFlag, resCancel, pym, sl2]  -- CANCEL
      · by_cases hpre : pre = []                                                                                  -- FLAG
        · subst hpre
          simp only [List.length_nil, Nat.zero_add] at sl1 sl2
          simp [SrcRound, resFlag, pym, sl1, sl2]
        · have hpe : pre.isEmpty = false := by simpa using hpre
          obtain ⟨data', s', h1, h2, h3, h4⟩ :=
            segment_eq (⟨tr, rest, false, pe, fu, tx, rx, rc, ns, trace⟩ : S) (h.of_eq rfl rfl rfl rfl) flag0 pre data
          have e1 : ((126 : UInt8) == resFlag) = true := by decide
          have e2 : decide (UInt8.toNat 126 = 126) = true := by decide
          simp only [SrcRound, e1, e2, hpe, ↓reduceIte, Bool.false_eq_true]
          refine ⟨data', s', ?_, h2, h3, h4.of_trace_eq rfl⟩
          simp only [pym, sl1, sl2, hpe, Bool.false_eq_true, Bool.not_false,
            Bool.not_true, ↓reduceIte] at h1 ⊢
          exact h1

theorem loop1_disc (s : S) (data : List UInt8) (hd : s.discarding = true) (hb : s.buffer ≠ []) :
    BV.Src.Ash.AshProtocol.data_received.loop1 data s =
      match afterFlag s.buffer with
      | none => (.ok (.brk data), { s with buffer := [] })
      | some q => BV.Src.Ash.AshProtocol.data_received.loop1 data { s with buffer := q, discarding := false } := by
  have h126 : bytesOf [126] = .ok [126] := by decide
  cases haf : afterFlag s.buffer with
  | none =>
    have hc : bytesContains1 [126] s.buffer = false := by rw [contains_flag, haf]; rfl
    simp [BV.Src.Ash.AshProtocol.data_received.loop1, pym, hb, hd, h126, hc]
  | some q =>
    have hc : bytesContains1 [126] s.buffer = true := by rw [contains_flag, haf]; rfl
    have hp : (partition1 (126 : UInt8) s.buffer).2.2 = q := partition_flag s.buffer q haf
    by_cases hq : q = []
    · subst hq
      simp [BV.Src.Ash.AshProtocol.data_received.loop1, pym, hb, hd, h126, hc, hp, firstIdx]
    · simp [BV.Src.Ash.AshProtocol.data_received.loop1, pym, hb, hd, h126, hc, hp, hq]

theorem round_src (s : S) (data : List UInt8) (h : Inv s) (flag0 : Bool) :
    SrcRound s data flag0 (BV.Src.Ash.AshProtocol.data_received.loop1 data s) (roundOf s.buffer s.discarding) := by
  rcases s with ⟨tr, b, d, pe, fu, tx, rx, rc, ns, trace⟩
  by_cases hb : b = []
  · subst hb
    simp [roundOf, SrcRound, BV.Src.Ash.AshProtocol.data_received.loop1, pym]
  have hbe : b.isEmpty = false := by simpa using hb
  simp only [roundOf, hbe, Bool.false_eq_true, ↓reduceIte]
  cases d with
  | false => exact body_src ⟨tr, b, false, pe, fu, tx, rx, rc, ns, trace⟩ data h flag0 rfl
  | true =>
    rw [loop1_disc ⟨tr, b, true, pe, fu, tx, rx, rc, ns, trace⟩ data rfl hb]
    simp only [↓reduceIte]
    cases afterFlag b with
    | none => rfl
    | some q =>
      have := body_src ⟨tr, q, false, pe, fu, tx, rx, rc, ns, trace⟩ data (h.of_eq rfl rfl rfl rfl) flag0 rfl
      -- the same outcome, told from the state before the FLAG was found: the trace, which is all `RanTo` looks at, is the same
      revert this
      simp only
      cases bodyOf q with
      | stop b' d' => exact id
      | go b' d' seg =>
        cases seg with
        | none => exact id
        | some sg => exact fun ⟨data', s', h1, h2, h3, h4⟩ => ⟨data', s', h1, h2, h3, h4.of_trace_eq rfl⟩

theorem loop_eq (n : Nat) : ∀ (s : S) (data : List UInt8), s.buffer.length < n → Inv s →
    ∀ flag0 : Bool, ∃ data' s' brk,
      whileM BV.Src.Ash.AshProtocol.data_received.loop1 n data s = (.ok (.done data' brk), s') ∧
      RanTo s (scan n s.buffer s.discarding).1 (scan n s.buffer s.discarding).2.1
        (onSegments (absS s flag0) (scan n s.buffer s.discarding).2.2) s' := by
  induction n with
  | zero => intro s data h; omega
  | succ n ih =>
    intro s data hlen h flag0
    have hr := round_src s data h flag0
    rw [scan_round]
    cases hro : roundOf s.buffer s.discarding with
    | stop b' d' =>
      rw [hro] at hr
      simp only [Round.result, SrcRound] at hr ⊢
      exact ⟨data, { s with buffer := b', discarding := d' }, true, by simp [whileM, hr], rfl, rfl,
        (Sim.refl (s := { s with buffer := b', discarding := d' }) (h.of_eq rfl rfl rfl rfl) flag0).of_trace_eq rfl⟩
    | go b' d' seg =>
      have hlt := roundOf_go_lt hro
      rw [hro] at hr
      simp only [Round.result]
      cases seg with
      | none =>
        simp only [SrcRound] at hr
        obtain ⟨data', s', brk, h1, h2, h3, h4⟩ :=
          ih { s with buffer := b', discarding := d' } data (by simp only; omega) (h.of_eq rfl rfl rfl rfl) flag0
        exact ⟨data', s', brk, by simp only [whileM, hr]; exact h1, h2, h3, h4.of_trace_eq rfl⟩
      | some sg =>
        obtain ⟨data1, s1, hl, g1, g2, g3⟩ := hr
        obtain ⟨data', s', brk, h1, h2, h3, h4⟩ :=
          ih s1 data1 (by rw [g1]; omega) g3.inv (onSegment (absS s flag0) sg).1.ackTimeoutReset
        rw [g3.abs, g1, g2] at h4
        rw [g1, g2] at h2 h3
        exact ⟨data', s', brk, by simp only [whileM, hl]; exact h1, h2, h3, g3.trans h4⟩

/-- the decoder state a source state stands for -/
def decOf (s : S) (flag : Bool) : BV.Ash.Dec := ⟨s.buffer, s.discarding, absS s flag⟩

/-- `RanTo` for a model function on decoder states -/
abbrev RanToDec (s : S) (m : BV.Ash.Dec × List BV.Ash.Ev) (s' : S) : Prop := RanTo s m.1.buf m.1.disc (m.1.rx, m.2) s'

theorem RanToDec.dec {s s' : S} {m : BV.Ash.Dec × List BV.Ash.Ev} (h : RanToDec s m s') :
    decOf s' m.1.rx.ackTimeoutReset = m.1 := by
  rw [decOf, h.buf, h.disc, h.sim.abs]

theorem data_received_eq (s : S) (chunk : List UInt8) (h : Inv s) (flag0 : Bool) :
    ∃ s', BV.Src.Ash.AshProtocol.data_received chunk s = (.ok (), s') ∧
      RanToDec s (BV.Ash.feedChunk (decOf s flag0) chunk) s' := by
  -- the translator's fuel `2·(len(buffer) + len(data)) + 2`, read after `buffer.extend(data)`: hence `chunk.length` twice
  obtain ⟨data', s1, brk, h1, h2, h3, h4⟩ :=
    loop_eq (2 * (s.buffer.length + chunk.length + chunk.length) + 2) { s with buffer := s.buffer ++ chunk } chunk
      (by simp only [List.length_append]; omega) (h.of_eq rfl rfl rfl rfl) flag0
  have hf := scan_fuel (2 * (s.buffer.length + chunk.length + chunk.length) + 2) ((s.buffer ++ chunk).length + 1)
    (s.buffer ++ chunk) s.discarding (by simp only [List.length_append]; omega) (by omega)
  simp only [hf] at h2 h3 h4
  have h4 := h4.of_trace_eq (t := s) rfl
  simp only [RanToDec, BV.Ash.feedChunk, decOf, BV.Ash.truncate, ← h2]
  by_cases hlen : s1.buffer.length > maxBufferSize
  · refine ⟨{ s1 with buffer := sliceFromNeg s1.buffer 1024 }, ?_, ?_, h3, h4.end_buffer _⟩
    · have hlen : s1.buffer.length > 1024 := hlen
      simp [BV.Src.Ash.AshProtocol.data_received, pym, h1, hlen]
    · rw [if_pos hlen]; simp only [sliceFromNeg, maxBufferSize]
  · refine ⟨s1, ?_, by rw [if_neg hlen], h3, h4⟩
    have hlen : ¬ s1.buffer.length > 1024 := hlen
    simp [BV.Src.Ash.AshProtocol.data_received, pym, h1, hlen]

/-- `data_received` over a list of reads; stops at the first call that raises -/
def srcFeed (s : S) : List (List UInt8) → Except PyErr Unit × S
  | [] => (.ok (), s)
  | c :: cs =>
    match BV.Src.Ash.AshProtocol.data_received c s with
    | (.ok _, s') => srcFeed s' cs
    | (.error e, s') => (.error e, s')

/-- **source = model**: from a state with the transport open, the heap well formed and `rx_seq < 8` (`Inv`), any
sequence of reads handed to the translated `data_received` returns normally every time; the remainder kept, the discarding flag, the receiver state (sequence numbers, pending frames, failed
flag) and the calls made on the environment (bytes written, payloads handed upward, reset notifications), in order, are
those of `feedChunks` -/
theorem srcFeed_eq (chunks : List (List UInt8)) : ∀ (s : S), Inv s → ∀ flag0 : Bool,
    ∃ s', srcFeed s chunks = (.ok (), s') ∧ RanToDec s (BV.Ash.feedChunks (decOf s flag0) chunks) s' := by
  induction chunks with
  | nil => exact fun s h flag0 => ⟨s, rfl, rfl, rfl, Sim.refl h flag0⟩
  | cons c cs ih =>
    intro s h flag0
    obtain ⟨s1, h1, h2⟩ := data_received_eq s c h flag0
    obtain ⟨s', g1, g2⟩ := ih s1 h2.sim.inv (BV.Ash.feedChunk (decOf s flag0) c).1.rx.ackTimeoutReset
    rw [h2.dec] at g2
    exact ⟨s', by simp only [srcFeed, h1]; exact g1, g2.buf, g2.disc, h2.sim.trans g2.sim⟩

end BV.Proofs.Src.AshDec
