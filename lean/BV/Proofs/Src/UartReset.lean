/-
Source-level tie for the reset handshake: `Gateway.reset` (bellows/uart.py) as generated from the syntax tree
(BV/Gen/SrcUartReset.lean), run against a script of what reaches the gateway while it is suspended - every input goes through
the generated synchronous handlers of BV/Gen/SrcUart.lean.  (`wait_for_startup_reset` is generated too; nothing is proved of it.)
-/
import BV.Gen.SrcUartReset
import BV.Proofs.Src.Uart
import BV.Proofs.Src.PyMSimp
namespace BV.Proofs.Src.UartReset
open BV.Py BV.Src.Uart BV.Src.UartReset BV.Proofs.Src.Uart

/-- the state in which a fresh `reset()` starts to wait: RST handed to the transport, a new pending future in `_reset_future`, its
clean-up armed -/
def requested (g : Gateway) : Gateway :=
  { g with trace := g.trace ++ [.transportSendReset], futs := g.futs ++ [.pending], reset_future := some g.futs.length,
           cleanups := g.cleanups ++ [g.futs.length] }

/-- **a fresh request**: no reset in progress and a transport present - one RST goes out, first; then the bounded wait (5 s) on a
new future -/
theorem reset_fresh (g : Gateway) (hr : g.reset_future = none) (ht : g.transport = some ()) :
    Gateway.reset g = gAwait (some g.futs.length) (some 5) (requested g) := by
  simp [Gateway.reset, pym, hr, gtransport, ht, gNewFut, gArmCleanup, requested]

/-- a gateway whose futures are where its attributes say (no attribute points outside the heap) -/
def Sane (g : Gateway) : Prop :=
  (∀ j, g.startup_reset_future = some j → j < g.futs.length) ∧ (∀ j, g.connection_done_future = some j → j < g.futs.length) ∧
  (∀ c ∈ g.cleanups, c < g.futs.length ∧ (g.futs[c]?.map GFut.done) = some false)

theorem gfutSet_rest (o : Option Nat) (v : GFut) (s : Gateway) :
    (gfutSet o v s).2.reset_future = s.reset_future ∧ (gfutSet o v s).2.startup_reset_future = s.startup_reset_future ∧
    (gfutSet o v s).2.connection_done_future = s.connection_done_future := by
  cases o with
  | none => exact ⟨rfl, rfl, rfl⟩
  | some i =>
    simp only [gfutSet]
    cases hf : s.futs[i]? with
    | none => exact ⟨rfl, rfl, rfl⟩
    | some f => cases f <;> exact ⟨rfl, rfl, rfl⟩

/-- an action never turns cell `n` of the heap into a *result* -/
def Pres {α} (n : Nat) (m : PyM Gateway α) : Prop := ∀ s, s.futs[n]? ≠ some .result → (m s).2.futs[n]? ≠ some .result

theorem pres_pure {α} (n : Nat) (a : α) : Pres n (pure a : PyM Gateway α) := fun _ h => h
theorem pres_throw {α} (n : Nat) (e : PyErr) : Pres n (PyM.throw e : PyM Gateway α) := fun _ h => h
theorem pres_get (n : Nat) : Pres n (PyM.get : PyM Gateway Gateway) := fun _ h => h
theorem pres_bind {α β} (n : Nat) (m : PyM Gateway α) (f : α → PyM Gateway β) (hm : Pres n m) (hf : ∀ a, Pres n (f a)) :
    Pres n (m >>= f) := by
  intro s hs
  have h1 := hm s hs
  show ((PyM.bind m f) s).2.futs[n]? ≠ _
  unfold PyM.bind
  rcases hx : m s with ⟨r, s'⟩
  rw [hx] at h1
  cases r with
  | ok a => exact hf a s' h1
  | error e => exact h1
theorem pres_ite {α} (n : Nat) (c : Prop) [Decidable c] (a b : PyM Gateway α) (ha : Pres n a) (hb : Pres n b) :
    Pres n (if c then a else b) := by split <;> assumption
theorem pres_modify (n : Nat) (f : Gateway → Gateway) (hf : ∀ s, (f s).futs = s.futs) : Pres n (PyM.modify f) := by
  intro s hs; show (f s).futs[n]? ≠ _; rw [hf]; exact hs
theorem pres_gemit (n : Nat) (e : GEv) : Pres n (gemit e) := pres_modify n _ (fun _ => rfl)
theorem pres_gfutDone (n : Nat) (o : Option Nat) : Pres n (gfutDone o) := by
  intro s hs
  cases o with
  | none => exact hs
  | some i => simp only [gfutDone]; cases s.futs[i]? <;> exact hs
theorem pres_gfutSet (n : Nat) (o : Option Nat) (v : GFut) (hv : v ≠ .result) : Pres n (gfutSet o v) := by
  intro s hn
  cases o with
  | none => exact hn
  | some i =>
    simp only [gfutSet]
    cases hf : s.futs[i]? with
    | none => exact hn
    | some f =>
      cases f <;> try exact hn
      simp only
      rw [List.getElem?_set]
      split
      · split
        · intro h; injection h with h; exact hv h
        · intro h; cases h
      · exact hn

/-- one step of the walk over a generated method: `Pres` is closed under the constructors of `PyM` programs and holds of every
primitive but `gfutSet _ .result`.  `with_reducible`: a rule that does not apply fails at the head symbol instead of unfolding the
program. -/
macro "pres_step" : tactic => `(tactic| with_reducible first
  | exact pres_pure _ _
  | exact pres_throw _ _
  | exact pres_get _
  | exact pres_gemit _ _
  | exact pres_gfutDone _ _
  | exact pres_gfutSet _ _ _ GFut.noConfusion
  | exact pres_modify _ _ (fun _ => rfl)
  | (apply pres_ite)
  | (apply pres_bind)
  | intro _)

/-- losing the connection fails futures, it never resolves one with a result of `True` -/
theorem pres_connection_lost (n : Nat) (exc : Option ExcVal) : Pres n (Gateway.connection_lost exc) := by
  unfold Gateway.connection_lost
  repeat' pres_step

theorem pres_eof (n : Nat) : Pres n Gateway.eof_received :=
  fun s hs => eof_received_eq s ▸ pres_connection_lost n _ s hs

theorem pres_deliver (n : Nat) (x : GIn) (hx : x ≠ .rstack 11) : Pres n (gDeliver x) := by
  intro s hs
  cases x with
  | rstack c => rw [gDeliver, reset_received_other s c (fun h => hx (by rw [h]))]; exact hs
  | error c => rw [gDeliver, error_received_eq]; exact hs
  | lost e => exact pres_connection_lost n e s hs
  | eof => exact pres_eof n s hs
  | data d => rw [gDeliver, data_received_eq]; exact hs

theorem pres_round (n : Nat) (r : List GIn) (hr : GIn.rstack 11 ∉ r) : Pres n (gRound r) := by
  induction r with
  | nil => exact pres_pure _ _
  | cons x xs ih =>
    unfold gRound
    apply pres_bind
    · exact pres_deliver n x (fun h => hr (by rw [h]; exact List.mem_cons_self))
    · intro _; exact ih (fun h => hr (List.mem_cons_of_mem _ h))

theorem pres_each (n : Nat) (ids : List Nat) : Pres n (gEach ids) := by
  induction ids with
  | nil => exact pres_pure _ _
  | cons i is ih => exact pres_bind _ _ _ (fun s hs => by rw [reset_cleanup_eq]; exact hs) (fun _ => ih)

theorem pres_cleanups (n : Nat) : Pres n gRunCleanups := fun _ hs => pres_each n _ _ hs

theorem pres_rounds (n fid : Nat) (rs : List (List GIn)) (hr : ∀ r ∈ rs, GIn.rstack 11 ∉ r) : Pres n (gRounds fid rs) := by
  induction rs with
  | nil => exact pres_pure _ _
  | cons r rs ih =>
    unfold gRounds
    apply pres_bind
    · exact pres_round n r (hr r List.mem_cons_self)
    · intro _
      apply pres_bind
      · exact pres_cleanups n
      · intro _
        apply pres_bind
        · exact pres_get n
        · intro s
          apply pres_ite
          · exact pres_pure _ _
          · exact ih (fun r' h' => hr r' (List.mem_cons_of_mem _ h'))

theorem gAwait_ok {fid : Nat} {t : Option Nat} {s : Gateway} {b : Bool} (hd : gFutDone s fid = false)
    (h : (gAwait (some fid) t s).1 = .ok b) :
    ∃ w rest, s.script = w :: rest ∧ (gRounds fid w.rounds { s with script := rest }).2.futs[fid]? = some .result := by
  cases hs : s.script with
  | nil => simp [gAwait, pym, hs] at h
  | cons w rest =>
    refine ⟨w, rest, rfl, ?_⟩
    simp only [gAwait, pym, hs, hd, Bool.false_eq_true, ↓reduceIte] at h
    rcases hx : gRounds fid w.rounds { s with script := rest } with ⟨_ | u, s'⟩ <;> rw [hx] at h
    · simp at h
    · simp only at h ⊢
      cases hf : s'.futs[fid]? with
      | none => simp [hf, PyM.throw] at h
      | some f =>
        rw [hf] at h
        cases f with
        | result => rfl
        | pending =>
          -- still pending after the rounds: the script ends the wait, and every such end raises
          cases hfin : w.fin with
          | deadline =>
            cases t with
            | none => simp [hfin, PyM.throw] at h   -- an untimed wait cannot time out: outside the fragment
            | some _ =>   -- the future is cancelled, the clean-ups run (whatever they do), then TimeoutError
              simp only [hfin, pym] at h
              rcases hy : gRunCleanups _ with ⟨_ | _, s2⟩ <;> rw [hy] at h <;> simp at h
          | cancelled =>   -- likewise, then CancelledError
            cases t <;> simp only [hfin, pym] at h <;>
              (rcases hy : gRunCleanups _ with ⟨_ | _, s2⟩ <;> rw [hy] at h <;> simp at h)
        | _ => simp [PyM.throw] at h

end BV.Proofs.Src.UartReset
