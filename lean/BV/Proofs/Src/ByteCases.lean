import BV.Gen.SrcAsh
import BV.Model.Ash.Frame
import Mathlib.Tactic.IntervalCases
namespace BV.Proofs.Src.Ash
open BV.Py BV.Gen.Ash
open BV.Src.Ash (Frame FrameCls)

/-- split a goal about a byte into its 256 values, each closed by evaluation: a proof by this tactic does not depend on
how the source spells a per-byte computation (masks, shifts, operand order, branch order, local names) -/
macro "byte_cases " c:ident : tactic =>
  `(tactic| (obtain ⟨n, hn, hb⟩ : ∃ n, n < 256 ∧ $c = UInt8.ofNat n := ⟨($c).toNat, ($c).toNat_lt, by simp⟩
             subst hb
             interval_cases n <;> first | rfl | decide | simp))

/-- the same, for a loop body that also carries the output built so far: evaluation alone cannot reassociate
`(out ++ a) ++ b`, so the listed definitions are unfolded and the result normalised -/
macro "byte_cases " c:ident " unfolding " "[" ds:Lean.Parser.Tactic.simpLemma,* "]" : tactic =>
  `(tactic| (obtain ⟨n, hn, hb⟩ : ∃ n, n < 256 ∧ $c = UInt8.ofNat n := ⟨($c).toNat, ($c).toNat_lt, by simp⟩
             subst hb
             interval_cases n <;> first | rfl | decide |
               (simp [$ds,*, bytesOf, bind, Except.bind, pure, Except.pure, throw, throwThe, MonadExceptOf.throw,
                 BV.Ash.isReserved, reservedBytes, resEscape] <;> decide)))

end BV.Proofs.Src.Ash
