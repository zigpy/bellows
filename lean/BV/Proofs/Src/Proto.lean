/-
Source-level tie for the EZSP receive path: `ProtocolHandler.__call__` (bellows/ezsp/protocol.py), as generated from the syntax
tree (BV/Gen/SrcProto.lean), over the header parsers generated from EZSPv4 / v5 / v8 and the payload decoder of the codec model.
`call_eq` says what the translated code does for every byte string, as a function `callSpec` of how the bytes classify under the
model's `rxFrame`; the case theorems after it, and the C08 clauses, read that function off.
-/
import BV.Gen.SrcProto
import BV.Proofs.Src.Hdr
namespace BV.Proofs.Src.Proto
open BV.Py BV.Codec BV.Src.Proto BV.Proofs.Src.Hdr

/-- the header parser of the handler's class is the model's `rxHeader`; a frame too short for its header raises -/
theorem frameRx_eq (s : Proto) (d : List UInt8) :
    ∃ c, c ∈ shortClasses ∧ frameRx d s = (hdrRes c (rxHeader (hdrOf s.version) d), s) := by
  unfold frameRx
  -- `frameRx` runs the parser on a handler with default fields (`h := {}`): the parsers read none of them
  cases hdrOf s.version with
  | v4 => obtain ⟨c, hc, e⟩ := v4_rx_eq {} d; exact ⟨c, hc, by simp only [e]⟩
  | v5 => obtain ⟨c, hc, e⟩ := v5_rx_eq {} d; exact ⟨c, hc, by simp only [e]⟩
  | v8 => obtain ⟨c, hc, e⟩ := v8_rx_eq {} d; exact ⟨c, hc, by simp only [e]⟩

/-- what a classification `ok` of the model means in terms of the pieces the source computes -/
theorem rx_ok_parts (v : Nat) (cs : List Cmd) (d : List UInt8) (sq id : Nat) (name : String) (vals : List Val) (tr : List UInt8)
    (h : rxFrame v cs d = .ok sq id name vals tr) :
    ∃ pl c, rxHeader (hdrOf v) d = some (sq, id, pl) ∧ findById cs id = some c ∧ c.name = name ∧
      deFields (pl.length + 1) c.rxT pl = some (vals, tr) := by
  unfold rxFrame at h
  split at h
  · cases h
  · rename_i sq' id' pl hr
    split at h
    · cases h
    · rename_i c hf
      split at h
      · cases h
      · rename_i vs r hd
        cases h
        exact ⟨pl, c, hr, hf, rfl, hd⟩

/-- the handler after `self._awaiting.pop(sequence)` -/
def popped (s : Proto) (sq : Nat) : Proto := { s with awaiting := s.awaiting.filter (·.1 != sq) }

/-- `future.set_result(..)` / `future.set_exception(..)` under `except InvalidStateError: pass` -/
def resolve (fid : Nat) (v : PFut) (s : Proto) : Except PyErr Unit × Proto :=
  match s.futs[fid]? with
  | some .pending => (.ok (), { s with futs := s.futs.set fid v })
  | some _ => (.ok (), s)
  | none => (.error (.unsupported "dangling future"), s)

/-- what a decoded frame `id name vals` has for the call that expects `eid`: the outcome for its future, or the exception raised
before the future is touched -/
def verdict (cs : List Cmd) (id eid : Nat) (name : String) (vals : Vals) : Except PyErr PFut :=
  if name = "invalidCommand" then
    if (findById cs eid).isNone then .error (.raised "KeyError")
    else if vals.isEmpty then .error (.raised "IndexError")
    else .ok .invalidCommand
  else if eid = id then .ok (.result vals) else .error (.raised "AssertionError")

/-- `__call__` from the look-up in `_awaiting` on, for a frame that decoded: the pure function the generated code is shown equal to -/
def callOk (s : Proto) (sq id : Nat) (name : String) (vals : Vals) : Except PyErr Unit × Proto :=
  match s.awaiting.lookup sq with
  | none => (.ok (), { s with trace := s.trace ++ [.callback name vals] })
  | some (eid, fid) =>
    match verdict s.cmds id eid name vals with
    | .ok v => resolve fid v (popped s sq)
    | .error e => (.error e, popped s sq)

/-- `c`: the class the header parser raises on this frame if it is too short -/
def callSpec (c : String) (s : Proto) : RxOut → Except PyErr Unit × Proto
  | .short => (.error (.raised c), s)
  | .unknown _ => (.ok (), s)
  | .undecodable _ => (.error (.raised "ValueError"), s)
  | .ok sq id name vals _ => callOk s sq id name vals

theorem call_eq (s : Proto) (d : List UInt8) :
    ∃ c, c ∈ shortClasses ∧ handler_call d s = callSpec c s (rxFrame s.version s.cmds d) := by
  obtain ⟨c, hc, he⟩ := frameRx_eq s d
  refine ⟨c, hc, ?_⟩
  -- one pass unfolds the code, with the header parser's answer in; each classification then evaluates only the stretch it reaches
  simp only [handler_call, pym, he, cmdById, deSchema, dictGet, rxFrame, Cmd.rxT, pemit]
  cases hr : rxHeader (hdrOf s.version) d with
  | none => simp only [hdrRes, callSpec]
  | some r =>
    obtain ⟨sq, id, pl⟩ := r
    simp only [hdrRes]
    cases hf : findById s.cmds id with
    | none => simp [PyM.pure, PyErr.caughtBy, callSpec]
    | some cm =>
      dsimp only
      cases hd : deFields (pl.length + 1) (cm.rx.map (·.2)) pl with
      | none => simp [pym, PyErr.caughtBy, baseOnly, callSpec]
      | some x =>
        obtain ⟨vals, tr⟩ := x
        simp only [callSpec, callOk, ite_self]
        cases hl : s.awaiting.lookup sq with
        | none => simp [pym, hl]
        | some e =>
          obtain ⟨eid, fid⟩ := e
          simp only [pym, hl, Option.isSome_some, ↓reduceIte, awaitingPop,
            decide_eq_true_eq, Bool.not_eq_eq_eq_not, Bool.not_true, decide_eq_false_iff_not, ite_not]
          by_cases hname : cm.name = "invalidCommand"
          · simp only [verdict, hname, ↓reduceIte, cmdById, pym]
            cases findById s.cmds eid with
            | none => rfl
            | some ce =>
              cases vals with
              | nil => rfl
              | cons v0 vs =>
                simp only [PyM.lift, valsHead, popped, pfutSet, resolve]
                rcases s.futs[fid]? with _ | (_ | _ | _ | _) <;> rfl
          · by_cases hid : eid = id
            · simp only [verdict, hname, hid, ↓reduceIte, pym, popped, pfutSet, resolve]
              rcases s.futs[fid]? with _ | (_ | _ | _ | _) <;> rfl
            · simp only [verdict, hname, hid, ↓reduceIte]; rfl

theorem call_ok (s : Proto) (d : List UInt8) (sq id : Nat) (name : String) (vals : List Val) (tr : List UInt8)
    (h : rxFrame s.version s.cmds d = .ok sq id name vals tr) : handler_call d s = callOk s sq id name vals := by
  obtain ⟨c, -, e⟩ := call_eq s d
  rw [e, h]; rfl

theorem verdict_raises {cs : List Cmd} {id eid : Nat} {name : String} {vals : Vals} {e : PyErr}
    (h : verdict cs id eid name vals = .error e) : ∃ c, c ∉ baseOnly ∧ e = .raised c := by
  unfold verdict at h
  -- the three errors of `verdict`: KeyError, IndexError, AssertionError
  (repeat' split at h) <;> cases h <;> exact ⟨_, by decide, rfl⟩

theorem verdict_result {cs : List Cmd} {id eid : Nat} {name : String} {vals w : Vals}
    (h : verdict cs id eid name vals = .ok (.result w)) : name ≠ "invalidCommand" ∧ eid = id ∧ w = vals := by
  unfold verdict at h
  (repeat' split at h) <;> cases h
  exact ⟨‹_›, ‹_›, rfl⟩

theorem resolve_frame (fid : Nat) (v : PFut) (s : Proto) :
    ∃ fs, (resolve fid v s).2 = { s with futs := fs } ∧ fs.length = s.futs.length ∧
      ∀ i, fs[i]? = s.futs[i]? ∨ (i = fid ∧ s.futs[i]? = some .pending ∧ fs[i]? = some v) := by
  unfold resolve
  split
  · rename_i hp
    refine ⟨_, rfl, by simp, fun i => ?_⟩
    by_cases hi : i = fid
    · subst hi; exact .inr ⟨rfl, hp, by simp [(List.getElem?_eq_some_iff.mp hp).1]⟩
    · exact .inl (by simp [Ne.symm hi])
  · exact ⟨_, rfl, rfl, fun _ => .inl rfl⟩
  · exact ⟨_, rfl, rfl, fun _ => .inl rfl⟩

theorem callOk_frame (s : Proto) (sq id : Nat) (name : String) (vals : Vals) :
    (callOk s sq id name vals).2.awaiting = (if (s.awaiting.lookup sq).isSome then s.awaiting.filter (·.1 != sq) else s.awaiting) ∧
    (callOk s sq id name vals).2.version = s.version ∧ (callOk s sq id name vals).2.cmds = s.cmds ∧
    (callOk s sq id name vals).2.seq = s.seq ∧ (callOk s sq id name vals).2.script = s.script ∧
    (callOk s sq id name vals).2.protocol = s.protocol ∧ (callOk s sq id name vals).2.futs.length = s.futs.length := by
  unfold callOk
  split
  · simp [*]
  · split
    · rename_i fid _ _ w _
      obtain ⟨fs, e, hlen, -⟩ := resolve_frame fid w (popped s sq)
      rw [e]; simp [*, popped]
    · simp [*, popped]

theorem callOk_fut (s : Proto) (sq id : Nat) (name : String) (vals : Vals) (i : Nat) :
    (callOk s sq id name vals).2.futs[i]? = s.futs[i]? ∨
    ∃ eid w, s.awaiting.lookup sq = some (eid, i) ∧ s.futs[i]? = some .pending ∧ verdict s.cmds id eid name vals = .ok w ∧
      (callOk s sq id name vals).2.futs[i]? = some w := by
  unfold callOk
  split
  · exact .inl rfl
  · rename_i eid fid hl
    split
    · rename_i w hv
      obtain ⟨fs, e, -, hfs⟩ := resolve_frame fid w (popped s sq)
      rw [e]
      rcases hfs i with h | ⟨rfl, hp, h⟩
      · exact .inl h
      · exact .inr ⟨eid, w, hl, hp, hv, h⟩
    · exact .inl rfl

theorem callOk_trace (s : Proto) (sq id : Nat) (name : String) (vals : Vals) :
    (callOk s sq id name vals).2.trace = if (s.awaiting.lookup sq).isNone then s.trace ++ [.callback name vals] else s.trace := by
  unfold callOk
  split
  · simp [*]
  · split
    · rename_i fid _ _ w _
      obtain ⟨fs, e, -⟩ := resolve_frame fid w (popped s sq)
      rw [e]; simp [*, popped]
    · simp [*, popped]

theorem callOk_outcome (s : Proto) (sq id : Nat) (name : String) (vals : Vals)
    (hwf : ∀ eid fid, s.awaiting.lookup sq = some (eid, fid) → fid < s.futs.length) :
    (callOk s sq id name vals).1 = .ok () ∨ ∃ c, c ∉ baseOnly ∧ (callOk s sq id name vals).1 = .error (.raised c) := by
  unfold callOk
  split
  · exact .inl rfl
  · rename_i eid fid hl
    split
    · left
      simp only [resolve, popped]
      split <;> simp_all
    · rename_i e hv
      obtain ⟨c, hc, rfl⟩ := verdict_raises hv
      exact .inr ⟨c, hc, rfl⟩

/-- too short for a header: the call raises, nothing is touched -/
theorem call_short (s : Proto) (d : List UInt8) (h : rxFrame s.version s.cmds d = .short) :
    ∃ c, handler_call d s = (.error (.raised c), s) := by
  obtain ⟨c, -, e⟩ := call_eq s d
  exact ⟨c, by rw [e, h]; rfl⟩

/-- a frame ID the version's table does not have: logged and dropped - no callback, no pending command touched, no exception -/
theorem call_unknown (s : Proto) (d : List UInt8) (id : Nat) (h : rxFrame s.version s.cmds d = .unknown id) :
    handler_call d s = (.ok (), s) := by
  obtain ⟨c, -, e⟩ := call_eq s d
  rw [e, h]; rfl

/-- a known frame whose payload does not decode: the call raises (the caller of `__call__`, `EZSP.frame_received`, contains it);
no callback, and the pending table is not touched - the entry is only popped after a successful decode -/
theorem call_undecodable (s : Proto) (d : List UInt8) (name : String) (h : rxFrame s.version s.cmds d = .undecodable name) :
    handler_call d s = (.error (.raised "ValueError"), s) := by
  obtain ⟨c, -, e⟩ := call_eq s d
  rw [e, h]; rfl

/-- an unsolicited frame (no call waits under its sequence number): handed to the callback exactly once with the decoded values -/
theorem call_callback (s : Proto) (d : List UInt8) (sq id : Nat) (name : String) (vals : List Val) (tr : List UInt8)
    (h : rxFrame s.version s.cmds d = .ok sq id name vals tr) (hn : s.awaiting.lookup sq = none) :
    handler_call d s = (.ok (), { s with trace := s.trace ++ [.callback name vals] }) := by
  rw [call_ok s d sq id name vals tr h, callOk, hn]

/-- **the reply of a waiting call**: a decodable frame under the call's sequence number *and* with the frame ID the call expects
resolves that call's future with the decoded values, removes the entry, and goes nowhere else -/
theorem call_reply (s : Proto) (d : List UInt8) (sq id fid : Nat) (name : String) (vals : List Val) (tr : List UInt8)
    (h : rxFrame s.version s.cmds d = .ok sq id name vals tr) (hl : s.awaiting.lookup sq = some (id, fid))
    (hname : name ≠ "invalidCommand") (hp : s.futs[fid]? = some .pending) :
    handler_call d s = (.ok (), { popped s sq with futs := s.futs.set fid (.result vals) }) := by
  rw [call_ok s d sq id name vals tr h]
  simp [callOk, hl, verdict, hname, resolve, popped, hp]

/-- a frame under a waiting call's sequence number but with **another frame ID** (and not the invalid-command answer): the entry is
popped, the assertion fails - the future is *not* resolved, no callback is made -/
theorem call_wrong_id (s : Proto) (d : List UInt8) (sq id eid fid : Nat) (name : String) (vals : List Val) (tr : List UInt8)
    (h : rxFrame s.version s.cmds d = .ok sq id name vals tr) (hl : s.awaiting.lookup sq = some (eid, fid))
    (hname : name ≠ "invalidCommand") (hne : eid ≠ id) :
    handler_call d s = (.error (.raised "AssertionError"), popped s sq) := by
  rw [call_ok s d sq id name vals tr h]
  simp [callOk, hl, verdict, hname, hne]

/-- a reply for a call that is already over (its future cancelled or timed out): swallowed - entry popped, nothing raised, no
callback -/
theorem call_dead (s : Proto) (d : List UInt8) (sq id fid : Nat) (name : String) (vals : List Val) (tr : List UInt8) (f : PFut)
    (h : rxFrame s.version s.cmds d = .ok sq id name vals tr) (hl : s.awaiting.lookup sq = some (id, fid))
    (hname : name ≠ "invalidCommand") (hp : s.futs[fid]? = some f) (hf' : (f == PFut.pending) = false) :
    handler_call d s = (.ok (), popped s sq) := by
  rw [call_ok s d sq id name vals tr h]
  cases f with
  | pending => exact absurd hf' (by decide)
  | _ => simp [callOk, hl, verdict, hname, resolve, popped, hp]

/-- the invalid-command answer under a waiting call's sequence number fails that call with `InvalidCommandError` -/
theorem call_invalid (s : Proto) (d : List UInt8) (sq id eid fid : Nat) (v0 : Val) (vals : List Val) (tr : List UInt8) (ce : Cmd)
    (h : rxFrame s.version s.cmds d = .ok sq id "invalidCommand" (v0 :: vals) tr) (hl : s.awaiting.lookup sq = some (eid, fid))
    (hce : findById s.cmds eid = some ce) (hp : s.futs[fid]? = some .pending) :
    handler_call d s = (.ok (), { popped s sq with futs := s.futs.set fid .invalidCommand }) := by
  rw [call_ok s d sq id _ _ tr h]
  simp [callOk, hl, verdict, hce, resolve, popped, hp]

theorem call_fut (s : Proto) (d : List UInt8) (i : Nat) :
    (handler_call d s).2.futs[i]? = s.futs[i]? ∨
    ∃ sq id name vals tr eid w, rxFrame s.version s.cmds d = .ok sq id name vals tr ∧ s.awaiting.lookup sq = some (eid, i) ∧
      s.futs[i]? = some .pending ∧ verdict s.cmds id eid name vals = .ok w ∧ (handler_call d s).2.futs[i]? = some w := by
  obtain ⟨c, -, e⟩ := call_eq s d
  rw [e]
  cases rxFrame s.version s.cmds d with
  | ok sq id name vals tr =>
    rcases callOk_fut s sq id name vals i with h | ⟨eid, w, h⟩
    · exact .inl h
    · exact .inr ⟨sq, id, name, vals, tr, eid, w, rfl, h⟩
  | _ => exact .inl rfl

theorem call_awaiting (s : Proto) (d : List UInt8) :
    (handler_call d s).2.awaiting = s.awaiting ∨
    ∃ sq id name vals tr, rxFrame s.version s.cmds d = .ok sq id name vals tr ∧
      (handler_call d s).2.awaiting = s.awaiting.filter (·.1 != sq) := by
  obtain ⟨c, -, e⟩ := call_eq s d
  rw [e]
  cases rxFrame s.version s.cmds d with
  | ok sq id name vals tr =>
    simp only [callSpec, (callOk_frame s sq id name vals).1]
    split
    · exact .inr ⟨sq, id, name, vals, tr, rfl, rfl⟩
    · exact .inl rfl
  | _ => exact .inl rfl

theorem result_only_own_reply (s : Proto) (d : List UInt8) (fid : Nat) (v : Vals)
    (hp : s.futs[fid]? = some .pending) (hr : (handler_call d s).2.futs[fid]? = some (.result v)) :
    ∃ sq id name tr, rxFrame s.version s.cmds d = .ok sq id name v tr ∧ s.awaiting.lookup sq = some (id, fid) ∧
      name ≠ "invalidCommand" := by
  rcases call_fut s d fid with h | ⟨sq, id, name, vals, tr, eid, w, hc, hl, -, hv, h⟩
  · rw [h, hp] at hr; cases hr
  · rw [h] at hr; cases hr
    obtain ⟨hn, rfl, rfl⟩ := verdict_result hv
    exact ⟨sq, eid, name, tr, hc, hl, hn⟩

/-- callbacks after any decodable frame: exactly one, with the frame's name and values, iff no entry waits under its sequence
number; none otherwise -/
theorem call_ok_trace (s : Proto) (d : List UInt8) (sq id : Nat) (name : String) (vals : List Val) (tr : List UInt8)
    (h : rxFrame s.version s.cmds d = .ok sq id name vals tr) :
    (handler_call d s).2.trace = if (s.awaiting.lookup sq).isNone then s.trace ++ [.callback name vals] else s.trace := by
  rw [call_ok s d sq id name vals tr h]; exact callOk_trace s sq id name vals

/-- the futures after any decodable frame: at most the future of the entry under the frame's sequence number changes - to the
decoded values when the frame carries the expected ID, to the invalid-command failure when it is that answer (`verdict`) -/
theorem call_ok_futs (s : Proto) (d : List UInt8) (sq id : Nat) (name : String) (vals : List Val) (tr : List UInt8)
    (h : rxFrame s.version s.cmds d = .ok sq id name vals tr) :
    (handler_call d s).2.futs =
      match s.awaiting.lookup sq with
      | none => s.futs
      | some (eid, fid) =>
        match verdict s.cmds id eid name vals, s.futs[fid]? with
        | .ok w, some .pending => s.futs.set fid w
        | _, _ => s.futs := by
  rw [call_ok s d sq id name vals tr h]
  unfold callOk
  cases s.awaiting.lookup sq with
  | none => rfl
  | some e =>
    obtain ⟨eid, fid⟩ := e
    dsimp only
    cases verdict s.cmds id eid name vals with
    | error x => rfl
    | ok w =>
      simp only [resolve, popped]
      rcases s.futs[fid]? with _ | (_ | _ | _ | _) <;> rfl

end BV.Proofs.Src.Proto
