/-
Source-level tie for bellows/multicast.py: the coroutines `Multicast.subscribe`, `Multicast.unsubscribe` and
`Multicast._initialize`, as generated from the syntax tree (BV/Gen/SrcMcast.lean; every `await` is a call on the scripted
command layer, `set.pop()` takes its element from a scripted choice), are proved to be the steps of the hand-written model
`BV.Mcast` that the C15 theorems are about.

`absH` forgets the stored entry objects (the model keeps group -> index only); `WF` says the dict's keys are distinct and
every stored entry carries its key as its multicast id (true after `_initialize`, kept by `subscribe` and `unsubscribe`).
-/
import BV.Gen.SrcMcast
import BV.Model.Multicast
import BV.Proofs.McastLemmas
import BV.Proofs.Src.PyDict
import BV.Proofs.Src.PyMSimp
namespace BV.Proofs.Src.Mcast
open BV.Py BV.Src.Mcast BV.Mcast

abbrev M := BV.Src.Mcast.Multicast

def absMc (l : List (Nat × (McEntry × Nat))) : List (Nat × Nat) := l.map fun p => (p.1, p.2.2)

def absH (m : M) : Host := { mc := absMc m.multicast, avail := m.available }

structure WF (m : M) : Prop where
  keys : (m.multicast.map (·.1)).Nodup
  ids : ∀ p ∈ m.multicast, p.2.1.multicastId = p.1

/-- the model's answer for a scripted outcome of the table write -/
def ansOf : Resp → Option Ans
  | .one st => some (if statusIsOk st then .ok else .reject (BV.Status.conv st))
  | .raises c => if baseOnly.contains c then none else some .timeout
  | _ => none

/-- the coroutine's outcome against the model's -/
def resRel (res : Except PyErr StatusV) : Res → Prop
  | .ok => ∃ st, res = .ok st ∧ statusIsOk st = true
  | .invalidIndex => res = .ok (.sl 39)   -- sl_Status.INVALID_INDEX = 0x27
  | .status n => ∃ st, res = .ok st ∧ statusIsOk st = false ∧ BV.Status.conv st = n
  | .raised => ∃ c, res = .error (.raised c)

/-- the table write the model reports against the command the coroutine issued -/
def writeRel (evs : List MEv) : Option (Nat × Nat × Nat) → Prop
  | none => evs = []
  | some (i, g, ep) => ∃ e, evs = [.setEntry i e] ∧ e.multicastId = g ∧ e.endpoint = ep

theorem lookup_val (l : List (Nat × (McEntry × Nat))) (g : Nat) :
    (dictGet l g).map (·.2) = lookupIdx (absMc l) g := by
  rw [lookupIdx_eq_lookup, dictGet, absMc, List.lookup_map_snd]

theorem lookup_isSome (l : List (Nat × (McEntry × Nat))) (g : Nat) :
    (dictGet l g).isSome = (lookupIdx (absMc l) g).isSome := by
  rw [← lookup_val, Option.isSome_map]

/-- distinct keys are needed: `dictSet` rewrites every entry under the key, the model's `mcSet` only the first -/
theorem absMc_dictSet (l : List (Nat × (McEntry × Nat))) (g i : Nat) (e : McEntry) (hk : (l.map (·.1)).Nodup) :
    absMc (dictSet l g (e, i)) = mcSet (absMc l) g i := by
  induction l with
  | nil => simp [dictSet, absMc, mcSet]
  | cons p ps ih =>
    obtain ⟨k, e', i'⟩ := p
    simp only [List.map_cons, List.nodup_cons] at hk
    by_cases h : k = g
    · subst h
      have hid := map_dictSet_of_not_mem ps k (e, i) hk.1
      simp only [dictSet, List.any_cons, beq_self_eq_true, Bool.true_or, ↓reduceIte, List.map_cons, absMc, mcSet] at hid ⊢
      simp only [hid]
    · have h1 : (k == g) = false := by simpa using h
      have ih' := ih hk.2
      unfold dictSet at ih' ⊢
      simp only [List.any_cons, h1, Bool.false_or, absMc, List.map_cons, mcSet, h, ↓reduceIte] at ih' ⊢
      by_cases ha : ps.any (fun kv => kv.1 == g) = true
      · simp only [ha, ↓reduceIte, List.map_cons, Bool.false_eq_true] at ih' ⊢
        simp only [List.map_map] at ih' ⊢
        rw [← ih']
      · simp only [ha, Bool.false_eq_true, ↓reduceIte, List.cons_append, List.map_cons] at ih' ⊢
        rw [← ih']

theorem absMc_filter (l : List (Nat × (McEntry × Nat))) (g : Nat) :
    absMc (l.filter (fun kv => kv.1 != g)) = (absMc l).filter (fun kv => kv.1 != g) := by
  simp [absMc, List.filter_map, Function.comp_def]

theorem addAvail_eq (a : List Nat) (i : Nat) :
    (if i ∈ a then a else a ++ [i]) = addAvail a i := rfl

theorem ansOf_cases {r : Resp} {a : Ans} (ha : ansOf r = some a) :
    (∃ cl, r = .raises cl ∧ cl ∉ baseOnly ∧ a = .timeout) ∨
    (∃ st, r = .one st ∧ BV.Status.conv st = BV.Gen.Status.slOK ∧ a = .ok) ∨
    (∃ st, r = .one st ∧ BV.Status.conv st ≠ BV.Gen.Status.slOK ∧ a = .reject (BV.Status.conv st)) := by
  cases r with
  | cfg st v => simp [ansOf] at ha
  | entry st e => simp [ansOf] at ha
  | raises cl =>
    by_cases hb : cl ∈ baseOnly <;> simp [ansOf, hb] at ha
    exact .inl ⟨cl, rfl, hb, ha.symm⟩
  | one st =>
    by_cases hok : BV.Status.conv st = BV.Gen.Status.slOK <;> simp [ansOf, statusIsOk, hok] at ha
    · exact .inr (.inl ⟨st, rfl, hok, ha.symm⟩)
    · exact .inr (.inr ⟨st, rfl, hok, ha.symm⟩)

theorem wf_dictSet {mc : List (Nat × (McEntry × Nat))} (hk : (mc.map (·.1)).Nodup) (hi : ∀ p ∈ mc, p.2.1.multicastId = p.1)
    (e : McEntry) (i : Nat) : ((dictSet mc e.multicastId (e, i)).map (·.1)).Nodup ∧
      ∀ p ∈ dictSet mc e.multicastId (e, i), p.2.1.multicastId = p.1 :=
  ⟨nodup_keys_dictSet _ _ _ hk, fun p hp => ((mem_dictSet ..).mp hp).elim (fun h => h ▸ rfl) fun h => hi p h.1⟩

/- the coroutines are evaluated by unfolding the scripted command layer, the set operations and the model's step -/
attribute [local simp] bind PyM.bind pure PyM.pure PyM.attempt mcall availPop availAdd PyErr.caughtBy Resp.asSt Resp.asEntry Resp.asCfg listAt dictIndex dictPop step absH resRel writeRel statusIsOk checkU

/-- **`Multicast.subscribe` is the model's subscribe step** (already subscribed / no free index / table write accepted,
rejected or raising): same outcome, same bookkeeping afterwards, same table write.  `hg` is the range of `t.EmberMulticastId`
(uint16): beyond it `t.EmberMulticastId(group_id)` raises ValueError -/
theorem subscribe_eq (m : M) (tab : Tab) (g c : Nat) (cs : List Nat) (r : Resp) (rest : List Resp) (a : Ans)
    (hw : WF m) (hg : g < 65536) (hs : m.script = r :: rest) (hc : m.choices = c :: cs)
    (hca : m.available ≠ [] → c ∈ m.available) (ha : ansOf r = some a) :
    absH (Multicast.subscribe g m).2 = (step (absH m) tab (.subscribe g c a)).1 ∧
    WF (Multicast.subscribe g m).2 ∧
    resRel (Multicast.subscribe g m).1 (step (absH m) tab (.subscribe g c a)).2.2.res ∧
    writeRel ((Multicast.subscribe g m).2.trace.drop m.trace.length) (step (absH m) tab (.subscribe g c a)).2.2.write := by
  obtain ⟨mc, av, script, choices, trace⟩ := m
  simp only at hs hc hca
  subst hs hc
  obtain ⟨hk, hi⟩ := hw
  simp only at hk hi
  have hL := lookup_isSome mc g
  -- in every case `simp` runs the coroutine and the model's step on the case's facts: state, outcome and table write agree by
  -- evaluation (conjuncts 1, 3, 4); what is left is `WF` of the object afterwards
  by_cases h1 : (dictGet mc g).isSome = true
  · -- already subscribed
    have h1' : (lookupIdx (absMc mc) g).isSome = true := hL ▸ h1
    simp [Multicast.subscribe, h1, hg, h1', BV.Status.conv]
    exact ⟨hk, hi⟩
  · have h1' : (lookupIdx (absMc mc) g).isSome = false := by rw [← hL]; simpa using h1
    by_cases h2 : av = []
    · -- no free index
      subst h2
      simp [Multicast.subscribe, h1, h1']
      exact ⟨hk, hi⟩
    · have hcm : c ∈ av := hca h2
      have hne : av.isEmpty = false := by cases av <;> simp_all
      obtain ⟨cl, rfl, hb', rfl⟩ | ⟨st, rfl, hok', rfl⟩ | ⟨st, rfl, hok', rfl⟩ := ansOf_cases ha
      · -- the write raises: the index goes back
        simp [Multicast.subscribe, h1, hne, hg, hb', h1', h2, hcm, addAvail_eq]
        exact ⟨hk, hi⟩
      · -- accepted: `_multicast[g] = (entry, c)`, the entry as multicast.py:56-58 fills it (endpoint 1, network index 0)
        simp [Multicast.subscribe, h1, hne, hg, hok', h1', h2, hcm, absMc_dictSet mc g c _ hk]
        exact (wf_dictSet hk hi ⟨g, 1, 0⟩ c).elim WF.mk
      · -- rejected: the index goes back
        simp [Multicast.subscribe, h1, hne, hg, hok', h1', h2, hcm, addAvail_eq]
        exact ⟨hk, hi⟩

/-- **`Multicast.unsubscribe` is the model's unsubscribe step** -/
theorem unsubscribe_eq (m : M) (tab : Tab) (g : Nat) (r : Resp) (rest : List Resp) (a : Ans)
    (hw : WF m) (hs : m.script = r :: rest) (ha : ansOf r = some a) :
    absH (Multicast.unsubscribe g m).2 = (step (absH m) tab (.unsubscribe g a)).1 ∧
    WF (Multicast.unsubscribe g m).2 ∧
    resRel (Multicast.unsubscribe g m).1 (step (absH m) tab (.unsubscribe g a)).2.2.res ∧
    writeRel ((Multicast.unsubscribe g m).2.trace.drop m.trace.length) (step (absH m) tab (.unsubscribe g a)).2.2.write := by
  obtain ⟨mc, av, script, choices, trace⟩ := m
  simp only at hs
  subst hs
  obtain ⟨hk, hi⟩ := hw
  simp only at hk hi
  have hV := lookup_val mc g
  -- as in `subscribe_eq`: `simp` evaluates both sides, `WF` afterwards is left
  cases hl : mc.lookup g with
  | none =>
    have h1 : lookupIdx (absMc mc) g = none := by rw [← hV]; simp [dictGet, hl]
    simp [Multicast.unsubscribe, hl, h1]
    exact ⟨hk, hi⟩
  | some v =>
    obtain ⟨e, idx⟩ := v
    have h1 : lookupIdx (absMc mc) g = some idx := by rw [← hV]; simp [dictGet, hl]
    have hid : e.multicastId = g := hi (g, (e, idx)) (List.mem_of_lookup_eq_some hl)
    obtain ⟨cl, rfl, -, rfl⟩ | ⟨st, rfl, hok', rfl⟩ | ⟨st, rfl, hok', rfl⟩ := ansOf_cases ha
    · -- the write raises
      simp [Multicast.unsubscribe, hl, h1, hid]
      exact ⟨hk, hi⟩
    · -- accepted: the group is popped, its index freed
      simp [Multicast.unsubscribe, hl, hok', h1, hid, absMc_filter, addAvail_eq]
      refine ⟨?_, ?_⟩
      · have : (mc.filter (fun kv => kv.1 != g)).map (·.1) = (mc.map (·.1)).filter (fun k => k != g) := by
          rw [List.filter_map]; rfl
        rw [this]
        exact hk.filter _
      · intro p hp
        exact hi p (List.mem_filter.mp hp).1
    · -- rejected
      simp [Multicast.unsubscribe, hl, hok', h1, hid]
      exact ⟨hk, hi⟩

/-- one table entry as the NCP reports it: (status, entry) -/
abbrev Row := StatusV × McEntry

def tabOf (rows : List Row) : Tab := rows.map fun r => (r.2.multicastId, r.2.endpoint)

theorem scan_loop_eq (rows : List Row) (rest : List Resp) (i : Nat) (m : M) (stv : StatusV) (hw : WF m)
    (hall : ∀ r ∈ rows, statusIsOk r.1 = true)
    (hs : m.script = rows.map (fun r => Resp.entry r.1 r.2) ++ rest) :
    ∃ st' m', BV.Py.forM Multicast.u_initialize.loop1 (List.range' i rows.length) stv m = (.ok (.done st' false), m') ∧
      absH m' = scanFrom i (tabOf rows) (absH m) ∧ m'.script = rest ∧ WF m' ∧
      m'.trace = m.trace ++ (List.range' i rows.length).map MEv.getEntry := by
  induction rows generalizing i m stv with
  | nil =>
    refine ⟨stv, m, ?_, ?_, ?_, hw, ?_⟩
    · simp [BV.Py.forM, PyM.pure]
    · simp [tabOf, scanFrom]
    · simpa using hs
    · simp
  | cons r rows ih =>
    obtain ⟨st, e⟩ := r
    obtain ⟨mc, av, script, choices, trace⟩ := m
    simp only [List.map_cons, List.cons_append] at hs
    subst hs
    have hok : statusIsOk st = true := hall (st, e) (by simp)
    have hok' : BV.Status.conv st = BV.Gen.Status.slOK := by simpa [statusIsOk] using hok
    obtain ⟨hk, hi⟩ := hw
    simp only at hk hi
    by_cases hep : e.endpoint = 0
    · -- a free slot
      let m1 : M := { multicast := mc, available := if i ∈ av then av else av ++ [i],
                      script := rows.map (fun r => Resp.entry r.1 r.2) ++ rest, choices := choices,
                      trace := trace ++ [.getEntry i] }
      obtain ⟨st', m', h1, h2, h3, h4, h6⟩ := ih (i + 1) m1 st ⟨hk, hi⟩ (fun r hr => hall r (by simp [hr])) rfl
      refine ⟨st', m', ?_, ?_, h3, h4, ?_⟩
      · simp only [List.length_cons, List.range'_succ, BV.Py.forM]
        simp [Multicast.u_initialize.loop1, pym, hok', hep]
        exact h1
      · rw [h2]
        simp [tabOf, scanFrom, hep, m1, addAvail]
      · rw [h6]; simp [m1, List.range'_succ]
    · -- a programmed entry
      let m1 : M := { multicast := dictSet mc e.multicastId (e, i), available := av,
                      script := rows.map (fun r => Resp.entry r.1 r.2) ++ rest, choices := choices,
                      trace := trace ++ [.getEntry i] }
      have hw1 : WF m1 := (wf_dictSet hk hi e i).elim WF.mk
      obtain ⟨st', m', h1, h2, h3, h4, h6⟩ := ih (i + 1) m1 st hw1 (fun r hr => hall r (by simp [hr])) rfl
      refine ⟨st', m', ?_, ?_, h3, h4, ?_⟩
      · simp only [List.length_cons, List.range'_succ, BV.Py.forM]
        simp [Multicast.u_initialize.loop1, pym, hok', hep]
        exact h1
      · rw [h2]
        simp [tabOf, scanFrom, hep, m1, absMc_dictSet mc _ i e hk]
      · rw [h6]; simp [m1, List.range'_succ]

/-- **`Multicast._initialize` is the model's `scan`** when the size read and every entry read succeed: the host's view is
rebuilt from the NCP's table alone (whatever it held before), one read per index in order (`getConfig 6`: the read of
`EzspConfigId.CONFIG_MULTICAST_TABLE_SIZE` = 0x06) -/
theorem initialize_eq (m : M) (rows : List Row) (rest : List Resp) (stc : StatusV) (hc : statusIsOk stc = true)
    (hall : ∀ r ∈ rows, statusIsOk r.1 = true)
    (hs : m.script = Resp.cfg stc rows.length :: (rows.map (fun r => Resp.entry r.1 r.2) ++ rest)) :
    ∃ m', Multicast.u_initialize m = (.ok (), m') ∧ absH m' = scan (tabOf rows) ∧ m'.script = rest ∧ WF m' ∧
      m'.trace = m.trace ++ .getConfig 6 :: (List.range rows.length).map MEv.getEntry := by
  obtain ⟨mc, av, script, choices, trace⟩ := m
  simp only at hs
  subst hs
  have hc' : BV.Status.conv stc = BV.Gen.Status.slOK := by simpa [statusIsOk] using hc
  have hw0 : WF ({ multicast := [], available := [], script := rows.map (fun r => Resp.entry r.1 r.2) ++ rest,
                   choices := choices, trace := trace ++ [.getConfig 6] } : M) :=
    ⟨by simp, by intro p hp; simp at hp⟩
  obtain ⟨st', m', h1, h2, h3, h4, h6⟩ := scan_loop_eq rows rest 0 _ stc hw0 hall rfl
  refine ⟨m', ?_, ?_, h3, h4, ?_⟩
  · simp only [Multicast.u_initialize, pym, mcall, Resp.asCfg, rangeN, List.range_eq_range']
    simp only [hc', ne_eq, not_true_eq_false, decide_false, Bool.false_eq_true, ↓reduceIte]
    simp [pym, h1]
  · rw [h2]; simp [scan, absMc]
  · rw [h6]; simp [List.range_eq_range']

end BV.Proofs.Src.Mcast
