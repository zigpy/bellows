/-
Source-level tie for the receiver half of bellows/ash.py: `AshProtocol.frame_received` and the handlers it
dispatches to (`_handle_ack`, `data_frame_received`, `rstack/ack/nak/rst/error_frame_received`,
`_enter_failed_state`, `_cancel_pending_data_frames`, `_write_frame`), as generated from the syntax tree
(BV/Gen/SrcAsh.lean), are proved equal to the hand-written step function `BV.Ash.onFrame` that the C04
(and, through the bridge lemmas, C01/C02) theorems are about.

The generated code works on the object's fields with the ack futures in a heap (Python shares them by reference);
the model keeps each future's state inline.  `absS` is the abstraction, `WFs` the heap invariant.  All the handlers do
to the heap is `if not fut.done(): fut.set_…(v)` (`resolve`), for one key (`_handle_ack`) or for all.
-/
import BV.Proofs.Src.Ash
import BV.Proofs.Ash.RxLemmas
import BV.Proofs.Keyed
import BV.Proofs.Src.PyMSimp
namespace BV.Proofs.Src.AshRx

open BV.Py BV.Gen.Ash BV.Proofs.Src.Ash
open BV.Src.Ash (Frame AshProtocol FutState emit futDone futSet)

abbrev S := AshProtocol

def isOpen (s : S) : Bool := s.transport == some false   -- a transport is there and `is_closing()` answers False

/-- `_write_frame` on a well-formed frame: one write of prefix ++ stuffed bytes ++ suffix, or NcpFailure when the
transport is gone or closing -/
theorem write_frame_eq (s : S) (f : BV.Ash.Frame) (hw : f.WF) (pre suf : List UInt8) :
    BV.Src.Ash.AshProtocol.u_write_frame (ofM f) (pre.map UInt8.toNat) (suf.map UInt8.toNat) s =
      if isOpen s then (.ok (), { s with trace := s.trace ++ [.write (pre ++ BV.Ash.stuff (BV.Ash.encode f) ++ suf)] })
      else (.error (.raised "NcpFailure"), s) := by
  simp only [BV.Src.Ash.AshProtocol.u_write_frame, to_bytes_eq f hw, stuff_eq, bytesOf_toNat, isOpen]
  rcases s with ⟨tr, b, d, p, fu, tx, rx, rc, ns, trace⟩
  rcases tr with _ | c
  · simp [pym]
  · cases c <;>
      simp [pym, BV.Src.Ash.transportIsClosing, emit]

/-- what the hand model calls an ack future's state -/
def absFut : FutState → BV.Ash.Fut
  | .pending => .waiting
  | .result => .acked
  | .exc .notAcked => .notAcked
  | .exc (.ncpFailure (some c)) => .ncpFailure c
  | .exc (.ncpFailure none) => .closed
  | .exc .runtimeError => .closed
  | .exc .connectionReset => .closed
  | .exc (.other _) => .closed
  | .cancelled => .closed

theorem absFut_done (f : FutState) : (absFut f).done = f.done := by
  cases f with
  | exc e => cases e with
    | ncpFailure c => cases c <;> rfl
    | _ => rfl
  | _ => rfl

/-- the heap invariant: `_pending_data_frames` has one entry per frame number, every entry refers to its own,
existing future -/
structure WFs (s : S) : Prop where
  keys : (s.pending.map (·.1)).Nodup
  ids : (s.pending.map (·.2)).Nodup
  valid : ∀ p ∈ s.pending, p.2 < s.futs.length

/-- the model's view of heap cell `id` -/
def gOf (futs : List FutState) (id : Nat) : BV.Ash.Fut := absFut (futs.getD id .pending)

def absP (pending : List (Nat × Nat)) (futs : List FutState) : List (Nat × BV.Ash.Fut) :=
  pending.map fun p => (p.1, gOf futs p.2)

theorem absP_lookup (pending : List (Nat × Nat)) (futs : List FutState) (n : Nat) :
    (absP pending futs).lookup n = (pending.lookup n).map (gOf futs) := List.lookup_map_snd (gOf futs) pending n

def resolve (futs : List FutState) (id : Nat) (v : FutState) : List FutState :=
  if (futs.getD id .pending).done then futs else futs.set id v

theorem resolve_length (futs : List FutState) (id : Nat) (v : FutState) : (resolve futs id v).length = futs.length := by
  unfold resolve; split <;> simp

theorem futDone_eq {s : S} {id : Nat} (h : id < s.futs.length) : futDone id s = (.ok (s.futs.getD id .pending).done, s) := by
  simp [futDone, List.getD_eq_getElem?_getD, List.getElem?_eq_getElem h]

theorem futSet_eq {s : S} {id : Nat} (h : id < s.futs.length) (hd : (s.futs.getD id .pending).done = false) (v : FutState) :
    futSet id v s = (.ok (), { s with futs := resolve s.futs id v }) := by
  simp only [List.getD_eq_getElem?_getD, List.getElem?_eq_getElem h, Option.getD_some] at hd
  cases hf : s.futs[id] <;> simp [hf, FutState.done] at hd
  simp [futSet, resolve, List.getD_eq_getElem?_getD, List.getElem?_eq_getElem h, hf, FutState.done]

theorem gOf_resolve {futs : List FutState} {id : Nat} (h : id < futs.length) (v : FutState) (i : Nat) :
    gOf (resolve futs id v) i = if i = id ∧ (gOf futs id).done = false then absFut v else gOf futs i := by
  have hd : (gOf futs id).done = (futs.getD id .pending).done := absFut_done _
  rw [resolve, hd]
  cases (futs.getD id .pending).done
  · by_cases hi : i = id
    · subst hi; simp [gOf, List.getD_eq_getElem?_getD, h]
    · simp [gOf, List.getD_eq_getElem?_getD, hi, Ne.symm hi]
  · simp

/-- the model state a source-level state stands for.  `ackTimeoutReset` has no counterpart in the object: the theorems below
supply `flag` from the model's own result, so the tie says nothing of `_change_ack_timeout` -/
def absS (s : S) (flag : Bool) : BV.Ash.Rx :=
  { rxSeq := s.rx_seq, txSeq := s.tx_seq, failed := s.ncp_state == .FAILED, ackTimeoutReset := flag,
    pending := absP s.pending s.futs, open_ := isOpen s }

/-- source-level environment calls read as the model's events: `error_received(c)` is read as the model's `reset c`;
`_change_ack_timeout`, `transport.close()`, `connection_lost` and `error_received(None)` are not events of the model -/
def toMEv : BV.Src.Ash.Ev → Option BV.Ash.Ev
  | .write b => some (.write b)
  | .up p => some (.up p)
  | .reset c => some (.reset c)
  | .error (some c) => some (.reset c)
  | _ => none

def outcome (r : Except PyErr Unit) : List BV.Ash.Ev :=
  match r with
  | .ok _ => []
  | .error _ => [.raised]

/-- the events of a run: what was appended to the trace, then `raised` if the call ended in an error of any kind -/
def evsOf (s s' : S) (r : Except PyErr Unit) : List BV.Ash.Ev :=
  (s'.trace.drop s.trace.length).filterMap toMEv ++ outcome r

/-- `data_frame_received` is the model's `onData`; it leaves the ack futures alone, and the only exception that escapes it is
the `NcpFailure` of a write on a transport that is gone or closing -/
theorem data_frame_received_eq (s : S) (hrx : s.rx_seq < 8) (n r a : Nat) (p : List UInt8) (flag : Bool) :
    let res := BV.Src.Ash.AshProtocol.data_frame_received (.DataFrame n r a p) s
    let m := BV.Ash.onData (absS s flag) n (r != 0) p
    absS res.2 flag = m.1 ∧ evsOf s res.2 res.1 = m.2 ∧ res.2.futs = s.futs ∧ res.2.pending = s.pending ∧
      (∀ e, res.1 = .error e → e = .raised "NcpFailure") ∧ res.2.rx_seq < 8 ∧ s.trace <+: res.2.trace ∧
      res.2.buffer = s.buffer ∧ res.2.discarding = s.discarding := by
  have hack := fun (t : S) (k : Nat) (hk : k < 8) => write_frame_eq t (.ack false false k) hk [] [resFlag]
  have hnak := fun (t : S) (k : Nat) (hk : k < 8) => write_frame_eq t (.nak false false k) hk [] [resFlag]
  have h8 : ∀ k, (k + 1) % 8 < 8 := fun k => Nat.mod_lt _ (by decide)
  have hop : ∀ rx tr, isOpen { s with rx_seq := rx, trace := tr } = isOpen s := fun _ _ => rfl
  simp only [ofM, b2n, List.map_nil, List.map_cons, Bool.false_eq_true, ↓reduceIte, show resFlag.toNat = 126 from rfl]
    at hack hnak
  simp only [BV.Src.Ash.AshProtocol.data_frame_received, BV.Src.Ash.Frame.get_frm_num, BV.Src.Ash.Frame.get_re_tx,
    BV.Src.Ash.Frame.get_ezsp_frame, BV.Ash.onData, BV.Ash.writeFrame, BV.Ash.wire]
  -- both sides branch the same way, and then on whether the transport is open; in each case the effect is read off
  by_cases hn : n = s.rx_seq
  · -- in sequence: `rx_seq` advances, ACK, payload up
    cases ho : isOpen s <;>
      simp [hn, ho, hop, hack, h8, pym, emit, absS, evsOf, outcome, toMEv]
  · by_cases hr : r = 0
    · -- out of sequence: NAK
      cases ho : isOpen s <;> simp [hn, hr, ho, hop, hnak, hrx, pym, absS, evsOf, outcome, toMEv]
    · -- out of sequence but flagged as retransmitted: ACK again
      cases ho : isOpen s <;> simp [hn, hr, ho, hop, hack, hrx, pym, absS, evsOf, outcome, toMEv]

theorem ack_index (a : Nat) : ((((Int.ofNat a) + (-(Int.ofNat 1))) % (Int.ofNat 8)).toNat) = (a + 8 - 1) % 8 := by
  simp only [Int.ofNat_eq_natCast]
  omega

theorem WFs.replaceFuts {s : S} (h : WFs s) {fs : List FutState} (hl : fs.length = s.futs.length) : WFs { s with futs := fs } :=
  ⟨h.keys, h.ids, by simpa [hl] using h.valid⟩

theorem WFs.ids_lt {s : S} (h : WFs s) : ∀ id ∈ s.pending.map (·.2), id < s.futs.length := by
  simpa using fun a b hp => h.valid _ hp

theorem WFs.lt {s : S} (h : WFs s) {n id : Nat} (hl : s.pending.lookup n = some id) : id < s.futs.length :=
  h.valid _ (List.mem_of_lookup_eq_some hl)

theorem absP_resolve {s : S} (hw : WFs s) {n id : Nat} (hl : s.pending.lookup n = some id) (v : FutState) :
    absP s.pending (resolve s.futs id v) =
      if (gOf s.futs id).done then absP s.pending s.futs else BV.Ash.setFut (absP s.pending s.futs) n (absFut v) := by
  have hmem := List.mem_of_lookup_eq_some hl
  simp only [absP, BV.Ash.setFut, List.map_map]
  cases hd : (gOf s.futs id).done
  · apply List.map_congr_left
    intro ⟨k', i'⟩ hq
    -- the entry is the one of `n` iff its future is `id`: keys and ids are both distinct
    have hk : k' = n ↔ i' = id :=
      ⟨fun h => congrArg Prod.snd (List.eq_of_nodup_map (·.1) hw.keys hq hmem h),
       fun h => congrArg Prod.fst (List.eq_of_nodup_map (·.2) hw.ids hq hmem h)⟩
    by_cases h : i' = id <;> simp [gOf_resolve (hw.lt hl), hd, hk, h]
  · simp [gOf_resolve (hw.lt hl), hd]

/-- `_handle_ack` on the object: a change to the heap only, so every other field of `ackStep s n` is that of `s` by
computation -/
def ackStep (s : S) (n : Nat) : S :=
  { s with futs := match s.pending.lookup n with
      | some id => resolve s.futs id .result
      | none => s.futs }

theorem handle_ack_run (s : S) (hw : WFs s) (fr : Frame) (a : Nat) (ha : BV.Src.Ash.Frame.get_ack_num fr = .ok a) :
    BV.Src.Ash.AshProtocol.u_handle_ack fr s = (.ok (), ackStep s ((a + 8 - 1) % 8)) := by
  have hr : rangeI (-(Int.ofNat 1)) (Int.ofNat 0) = [-(Int.ofNat 1)] := by decide
  simp only [BV.Src.Ash.AshProtocol.u_handle_ack, hr, BV.Py.forM, BV.Src.Ash.AshProtocol.u_handle_ack.loop1, ha, ackStep,
    pym, ack_index]
  generalize (a + 8 - 1) % 8 = n
  cases hl : s.pending.lookup n with
  | none => simp [pym, hl, dictGet]
  | some id =>
    have hlt := hw.lt hl
    cases hd : (s.futs.getD id .pending).done
    · simp [pym, hl, dictGet, dictIndex, BV.Src.Ash.optFutDone, futDone_eq hlt, futSet_eq hlt hd, hd,
        -List.getD_eq_getElem?_getD]
    · simp [pym, hl, dictGet, BV.Src.Ash.optFutDone,
        futDone_eq hlt, hd, resolve, -List.getD_eq_getElem?_getD]

/-- stated on the state `frame_received` hands to `_handle_ack`: `ackTimeoutReset` cleared -/
theorem ackStep_abs (s : S) (hw : WFs s) (a : Nat) (flag : Bool) :
    absS (ackStep s ((a + 8 - 1) % 8)) false = BV.Ash.handleAck { absS s flag with ackTimeoutReset := false } a := by
  simp only [BV.Ash.handleAck_eq, absS, ackStep, absP_lookup, BV.Ash.Rx.mk.injEq, true_and]
  refine ⟨?_, rfl⟩
  cases hl : s.pending.lookup ((a + 8 - 1) % 8) with
  | none => rfl
  | some id =>
    simp only [absP_resolve hw hl, Option.map_some]
    cases gOf s.futs id <;> rfl

theorem ackStep_wf (s : S) (hw : WFs s) (n : Nat) : WFs (ackStep s n) := by
  refine hw.replaceFuts ?_
  split
  · exact resolve_length _ _ _
  · rfl

/-- `_cancel_pending_data_frames` on the heap -/
def cancelFuts (futs : List FutState) (ids : List Nat) (v : FutState) : List FutState :=
  ids.foldl (resolve · · v) futs

theorem cancelFuts_length (futs : List FutState) (ids : List Nat) (v : FutState) :
    (cancelFuts futs ids v).length = futs.length :=
  List.foldlRecOn (motive := fun fs => fs.length = futs.length) ids _ rfl fun fs h i _ => (resolve_length fs i v).trans h

theorem cancel_step (exc : ExcVal) (s : S) {i : Nat} (h : i < s.futs.length) :
    BV.Src.Ash.AshProtocol.u_cancel_pending_data_frames.loop1 exc () i s =
      (.ok (.next ()), { s with futs := resolve s.futs i (.exc exc) }) := by
  cases hd : (s.futs.getD i .pending).done
  · simp [BV.Src.Ash.AshProtocol.u_cancel_pending_data_frames.loop1, pym, futDone_eq h,
      futSet_eq h hd, hd, -List.getD_eq_getElem?_getD]
  · simp [BV.Src.Ash.AshProtocol.u_cancel_pending_data_frames.loop1, pym, futDone_eq h, hd,
      resolve, -List.getD_eq_getElem?_getD]

theorem cancel_run (exc : ExcVal) (s : S) (hw : WFs s) :
    BV.Src.Ash.AshProtocol.u_cancel_pending_data_frames exc s =
      (.ok (), { s with futs := cancelFuts s.futs (s.pending.map (·.2)) (.exc exc) }) := by
  have loop : ∀ (ids : List Nat) (s : S), (∀ id ∈ ids, id < s.futs.length) →
      BV.Py.forM (BV.Src.Ash.AshProtocol.u_cancel_pending_data_frames.loop1 exc) ids () s =
        (.ok (.done () false), { s with futs := cancelFuts s.futs ids (.exc exc) }) := by
    intro ids
    induction ids with
    | nil => exact fun _ _ => rfl
    | cons i is ih =>
      intro s hv
      have := ih { s with futs := resolve s.futs i (.exc exc) }
        (by simpa [resolve_length] using fun id hid => hv id (List.mem_cons_of_mem _ hid))
      simpa [BV.Py.forM, cancel_step exc s (hv i (by simp)), cancelFuts] using this
  have := loop (s.pending.map (·.2)) s hw.ids_lt
  simp [BV.Src.Ash.AshProtocol.u_cancel_pending_data_frames, pym, this]

theorem gOf_cancelFuts {futs : List FutState} {ids : List Nat} {v : FutState} (hv : (absFut v).done = true)
    (hvalid : ∀ id ∈ ids, id < futs.length) (i : Nat) :
    gOf (cancelFuts futs ids v) i = if i ∈ ids ∧ (gOf futs i).done = false then absFut v else gOf futs i := by
  induction ids generalizing futs with
  | nil => simp [cancelFuts]
  | cons j js ih =>
    have := ih (futs := resolve futs j v)
      (by simpa [resolve_length] using fun id hid => hvalid id (List.mem_cons_of_mem _ hid))
    simp only [cancelFuts, List.foldl_cons] at this ⊢
    rw [this, gOf_resolve (hvalid j (by simp))]
    by_cases hij : i = j
    · subst hij
      cases hd : (gOf futs i).done <;> simp [hd, hv]
    · simp [hij]

theorem cancel_abs (s : S) (hw : WFs s) (exc : ExcVal) (flag : Bool) :
    absS { s with futs := cancelFuts s.futs (s.pending.map (·.2)) (.exc exc) } flag =
      BV.Ash.cancelPending (absS s flag) (absFut (.exc exc)) := by
  simp only [absS, BV.Ash.cancelPending, BV.Ash.Rx.mk.injEq, true_and]
  refine ⟨?_, rfl⟩
  simp only [absP, List.map_map]
  apply List.map_congr_left
  intro q hq
  have hi : q.2 ∈ s.pending.map (·.2) := List.mem_map_of_mem hq
  have hv : (absFut (.exc exc)).done = true := by rw [absFut_done]; rfl
  simp only [Function.comp, gOf_cancelFuts hv hw.ids_lt, hi, true_and]
  cases (gOf s.futs q.2).done <;> rfl

/-- **`AshProtocol.frame_received` of the source = the model's `onFrame`**: same new state (sequence numbers, failed flag,
ack futures, transport), same environment calls in the same order (as far as `toMEv` reads them), an exception escapes exactly when the model says
`raised`; the heap invariant and `rx_seq < 8` are kept -/
theorem frame_received_eq (s : S) (hw : WFs s) (hrx : s.rx_seq < 8) (f : BV.Ash.Frame) (flag0 : Bool) :
    let res := BV.Src.Ash.AshProtocol.frame_received (ofM f) s
    let m := BV.Ash.onFrame (absS s flag0) f
    absS res.2 m.1.ackTimeoutReset = m.1 ∧ evsOf s res.2 res.1 = m.2 ∧ WFs res.2 ∧ res.2.rx_seq < 8 ∧
      s.trace <+: res.2.trace ∧ res.2.buffer = s.buffer ∧ res.2.discarding = s.discarding := by
  -- frames that carry an ack number first run `_handle_ack`: the state `ackStep s _`, which differs from `s` in the heap only
  have hrun := fun a fr ha => handle_ack_run s hw fr a ha
  have hwf := fun a => ackStep_wf s hw ((a + 8 - 1) % 8)
  have habs := fun a => ackStep_abs s hw a flag0
  have hfl := fun a => (BV.Ash.handleAck_fields { absS s flag0 with ackTimeoutReset := false } a).2.2.2.2
  -- the result is named and the dispatch decided first; `bind` is unfolded in the branch taken only (in all six it is slow)
  intro res m
  have hres : res = BV.Src.Ash.AshProtocol.frame_received (ofM f) s := rfl
  have hm : m = BV.Ash.onFrame (absS s flag0) f := rfl
  clear_value res m
  cases f
  all_goals simp only [BV.Src.Ash.AshProtocol.frame_received, ofM, BV.Src.Ash.Frame.cls, reduceCtorEq, decide_true, decide_false,
    Bool.false_eq_true, ↓reduceIte] at hres
  all_goals simp only [BV.Ash.onFrame] at hm
  case data n r a p =>
    have hd := data_frame_received_eq (ackStep s ((a + 8 - 1) % 8)) hrx n (b2n r) a p false
    simp only [b2n_ne, habs] at hd
    simp only [pym, hrun a (.DataFrame n (b2n r) a p) rfl] at hres
    generalize BV.Src.Ash.AshProtocol.data_frame_received _ _ = dres at hd hres
    obtain ⟨d1, d2, df, dp, -, d⟩ := hd
    -- the heap is as `_handle_ack` left it
    have dw : WFs dres.2 := ⟨dp ▸ (hwf a).keys, dp ▸ (hwf a).ids, dp ▸ df ▸ (hwf a).valid⟩
    subst hm
    rw [← d1, ← d2]
    obtain ⟨_ | _, s2⟩ := dres <;> subst hres <;> exact ⟨rfl, rfl, dw, d⟩
  case ack x nr a =>
    simp only [pym, hrun a (.AckFrame (b2n x) (b2n nr) a) rfl, BV.Src.Ash.AshProtocol.ack_frame_received] at hres
    subst hres hm
    exact ⟨by rw [hfl]; exact habs a, by simp [evsOf, ackStep, outcome], hwf a, hrx, List.prefix_refl _, rfl, rfl⟩
  case nak x nr a =>
    simp only [hrun a (.NakFrame (b2n x) (b2n nr) a) rfl, BV.Src.Ash.AshProtocol.nak_frame_received, pym,
      cancel_run .notAcked _ (hwf a)] at hres
    subst hres hm
    refine ⟨?_, by simp [evsOf, ackStep, outcome], (hwf a).replaceFuts (cancelFuts_length _ _ _), hrx, List.prefix_refl _, rfl, rfl⟩
    rw [show (BV.Ash.cancelPending _ _).ackTimeoutReset = false from hfl a, cancel_abs _ (hwf a), habs]
    rfl
  case rst =>
    simp only [BV.Src.Ash.AshProtocol.rst_frame_received, pym] at hres
    subst hres hm
    exact ⟨by simp [absS, isOpen], by simp [evsOf, outcome], ⟨hw.keys, hw.ids, hw.valid⟩, hrx, List.prefix_refl _, rfl, rfl⟩
  case rstack v c =>
    simp only [BV.Src.Ash.AshProtocol.rstack_frame_received, pym, emit, BV.Src.Ash.Frame.get_reset_code] at hres
    subst hres hm
    exact ⟨by simp [absS, isOpen], by simp [evsOf, outcome, toMEv, List.filterMap], ⟨hw.keys, hw.ids, hw.valid⟩, by simp,
      by simp, rfl, rfl⟩
  case error v c =>
    have hw1 : WFs { s with ncp_reset_code := some c.toNat, ncp_state := .FAILED } := ⟨hw.keys, hw.ids, hw.valid⟩
    simp only [BV.Src.Ash.AshProtocol.error_frame_received, BV.Src.Ash.AshProtocol.u_enter_failed_state, pym, emit,
      BV.Src.Ash.Frame.get_reset_code, cancel_run (.ncpFailure (some c.toNat)) _ hw1] at hres
    subst hres hm
    refine ⟨?_, by simp [evsOf, outcome, toMEv], ⟨hw.keys, hw.ids, by simpa [cancelFuts_length] using hw.valid⟩, hrx, by simp,
      rfl, rfl⟩
    have := congrArg BV.Ash.Rx.pending (cancel_abs _ hw1 (.ncpFailure (some c.toNat)) false)
    simp only [absS, BV.Ash.cancelPending, absFut] at this ⊢
    simp [this, isOpen]

/-- environment calls made between two states, read as model events -/
def srcEvs (s s' : S) : List BV.Ash.Ev := (s'.trace.drop s.trace.length).filterMap toMEv

theorem srcEvs_trans (s t u : S) (h1 : s.trace <+: t.trace) (h2 : t.trace <+: u.trace) :
    srcEvs s u = srcEvs s t ++ srcEvs t u := by
  obtain ⟨x, hx⟩ := h1
  obtain ⟨y, hy⟩ := h2
  simp only [srcEvs, ← hy, ← hx, List.append_assoc, List.drop_left, List.filterMap_append]
  rw [← List.append_assoc, List.drop_left]

/-! Every statement about a run of the source (a frame, a segment, the `while` loop, a read, many reads) has one shape:
from an `Inv` state the calls return normally into an `Inv` state, and end state and environment calls are a model
function's.  `Sim s m s'` is that shape. -/

structure Inv (s : S) : Prop where
  opn : isOpen s = true
  wf : WFs s
  rx : s.rx_seq < 8

theorem Inv.of_eq {s t : S} (h : Inv s) (h1 : t.transport = s.transport) (h2 : t.pending = s.pending)
    (h3 : t.futs = s.futs) (h4 : t.rx_seq = s.rx_seq) : Inv t :=
  ⟨by rw [isOpen, h1]; exact h.opn, ⟨h2 ▸ h.wf.keys, h2 ▸ h.wf.ids, h2 ▸ h3 ▸ h.wf.valid⟩, h4 ▸ h.rx⟩

structure Sim (s : S) (m : BV.Ash.Rx × List BV.Ash.Ev) (s' : S) : Prop where
  abs : absS s' m.1.ackTimeoutReset = m.1
  evs : srcEvs s s' = m.2
  inv : Inv s'
  grows : s.trace <+: s'.trace

theorem Sim.refl {s : S} (h : Inv s) (flag : Bool) : Sim s (absS s flag, []) s :=
  ⟨rfl, by simp [srcEvs], h, List.prefix_refl _⟩

theorem Sim.trans {s s1 s2 : S} {m1 m2 : BV.Ash.Rx × List BV.Ash.Ev} (h1 : Sim s m1 s1) (h2 : Sim s1 m2 s2) :
    Sim s (m2.1, m1.2 ++ m2.2) s2 :=
  ⟨h2.abs, by rw [srcEvs_trans s s1 s2 h1.grows h2.grows, h1.evs, h2.evs], h2.inv, h1.grows.trans h2.grows⟩

theorem Sim.of_trace_eq {s t s' : S} {m : BV.Ash.Rx × List BV.Ash.Ev} (h : Sim s m s') (ht : t.trace = s.trace) : Sim t m s' :=
  ⟨h.abs, by rw [← h.evs, srcEvs, srcEvs, ht], h.inv, ht ▸ h.grows⟩

/-- stated for a variable buffer: against the literal `buffer[-1024:]` the unifier unfolds `Nat.sub` a thousand times -/
theorem Sim.end_buffer {s s' : S} {m : BV.Ash.Rx × List BV.Ash.Ev} (h : Sim s m s') (b : List UInt8) :
    Sim s m { s' with buffer := b } :=
  ⟨h.abs, h.evs, h.inv.of_eq rfl rfl rfl rfl, h.grows⟩

theorem frame_received_open (s : S) (h : Inv s) (f : BV.Ash.Frame) (flag0 : Bool) :
    ∃ s', BV.Src.Ash.AshProtocol.frame_received (ofM f) s = (.ok (), s') ∧
      Sim s (BV.Ash.onFrame (absS s flag0) f) s' ∧ s'.buffer = s.buffer ∧ s'.discarding = s.discarding := by
  obtain ⟨h1, h2, h3, h4, h5, h6, h7⟩ := frame_received_eq s h.wf h.rx f flag0
  generalize BV.Src.Ash.AshProtocol.frame_received (ofM f) s = res at h1 h2 h3 h4 h5 h6 h7
  obtain ⟨r, s'⟩ := res
  have hopen : isOpen s' = true := by
    have := congrArg BV.Ash.Rx.open_ h1
    simp only [absS] at this
    rw [this, BV.Ash.onFrame_open]; exact h.opn
  cases r with
  | error e =>
    exact absurd (h2 ▸ by simp [evsOf, outcome]) (BV.Ash.onFrame_no_raised (absS s flag0) h.opn f)
  | ok u => exact ⟨s', rfl, ⟨h1, by simpa [evsOf, outcome, srcEvs] using h2, ⟨hopen, h3, h4⟩, h5⟩, h6, h7⟩

end BV.Proofs.Src.AshRx
