import BV.Py.Prelude
import BV.Proofs.Src.PyMAttr
namespace BV.Py
attribute [pym] bind pure PyM.bind PyM.pure PyM.get PyM.set PyM.modify PyM.lift PyM.throw PyM.attempt PyM.tryCatch
end BV.Py
