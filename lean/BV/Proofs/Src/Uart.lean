/-
The synchronous handlers of `Gateway` (bellows/uart.py), as generated from the syntax tree (BV/Gen/SrcUart.lean), are the
primitives `resetReceived` / `connectionLost` of the hand-written reset model `BV.Reset` that the C10/C11 theorems are about.

The generated code keeps futures in a heap (`futs`, attributes hold ids); the model keeps the state of the future
inline in `resetFut` / `startupFut` and, separately, the state of the future *object* the reset waiters hold
(`waitFut`) because `_reset_future` may be cleared while the waiters still hold the object.  `Rel` is the
abstraction, `WF` the heap invariant (ids valid and pairwise distinct; the connection-done future, which only
`connection_lost` ever resolves, is pending while the attribute holds it).
-/
import BV.Gen.SrcUart
import BV.Model.Stack.Reset
import BV.Proofs.ResetLemmas
namespace BV.Proofs.Src.Uart
open BV.Py BV.Src.Uart BV.Reset

def absF : GFut → FS
  | .pending => .pending
  | .result => .result
  | .resultExc _ => .result
  | .exc _ => .exc
  | .cancelled => .cancelled

theorem absF_done (f : GFut) : (absF f).done = f.done := by cases f <;> rfl

/-- heap cell `i` (a dangling id reads as pending; `WF` excludes dangling ids) -/
def fget (futs : List GFut) (i : Nat) : GFut := (futs[i]?).getD .pending

def cell (futs : List GFut) : Option Nat → Option FS
  | none => none
  | some i => some (absF (fget futs i))

structure WF (g : Gateway) : Prop where
  rv : ∀ i, g.reset_future = some i → i < g.futs.length                         -- reset id valid
  sv : ∀ i, g.startup_reset_future = some i → i < g.futs.length                 -- start-up id valid
  cv : ∀ i, g.connection_done_future = some i → g.futs[i]? = some .pending      -- connection-done: valid and pending
  rs : ∀ i j, g.reset_future = some i → g.startup_reset_future = some j → i ≠ j -- the three ids are pairwise distinct
  rc : ∀ i j, g.reset_future = some i → g.connection_done_future = some j → i ≠ j
  sc : ∀ i j, g.startup_reset_future = some i → g.connection_done_future = some j → i ≠ j

structure Rel (g : Gateway) (s : GW) : Prop where
  r : s.resetFut = cell g.futs g.reset_future                                   -- `_reset_future`
  st : s.startupFut = cell g.futs g.startup_reset_future                        -- `_startup_reset_future`
  c : s.connDonePending = g.connection_done_future.isSome                       -- `_connection_done_future`
  w : ∀ i, g.reset_future = some i → s.waitFut = absF (fget g.futs i)           -- the future object the reset waiters hold

/-- the model's outputs of the synchronous handlers as the calls the source makes on the application; `exc` is what
`connection_lost` was called with and hands on.  Of the other outputs these handlers produce only `.connDone`: the
connection-done future's result, seen in the heap -/
def evOf (exc : Option ExcVal) : Out → List GEv
  | .enterFailed c => [.appEnterFailed c]
  | .appLost => [.appConnectionLost exc]
  | _ => []


theorem absF_p : absF .pending = .pending := rfl
theorem absF_r : absF .result = .result := rfl
theorem absF_re (e : Option ExcVal) : absF (.resultExc e) = .result := rfl
theorem absF_e (e : ExcVal) : absF (.exc e) = .exc := rfl
theorem absF_c : absF .cancelled = .cancelled := rfl
theorem done_p : GFut.pending.done = false := rfl

theorem absF_pending (f : GFut) : absF f = .pending ↔ f = .pending := by cases f <;> simp [absF]

theorem done_of_ne (f : GFut) (h : f ≠ .pending) : f.done = true := by cases f <;> simp_all [GFut.done]

theorem getElem?_fget {futs : List GFut} {i : Nat} (h : i < futs.length) : futs[i]? = some (fget futs i) := by
  simp [fget, List.getElem?_eq_getElem h]

/-- `if fut is not None and not fut.done(): fut.set_result(..) / set_exception(..)` as a function on the heap: every place
where the source resolves a future has this form (the connection-done future is pending whenever its attribute holds it) -/
def resolve (futs : List GFut) (o : Option Nat) (v : GFut) : List GFut :=
  match o with
  | some i => if fget futs i = .pending then futs.set i v else futs
  | none => futs

@[simp] theorem length_resolve (futs : List GFut) (o : Option Nat) (v : GFut) :
    (resolve futs o v).length = futs.length := by
  unfold resolve; split
  · split <;> simp
  · rfl

theorem getElem?_pending {futs : List GFut} {i : Nat} (h : i < futs.length) (hp : fget futs i = .pending) :
    futs[i]? = some .pending := hp ▸ getElem?_fget h

theorem fget_resolve_pending {futs : List GFut} {k : Nat} {v : GFut} (hk : futs[k]? = some .pending) :
    fget (resolve futs (some k) v) k = v := by
  obtain ⟨h, e⟩ := List.getElem?_eq_some_iff.mp hk
  simp [resolve, fget, h, e]

theorem gfutDone_some {g : Gateway} {i : Nat} (h : i < g.futs.length) :
    gfutDone (some i) g = (.ok (fget g.futs i).done, g) := by
  simp [gfutDone, getElem?_fget h]

theorem gfutSet_pending {g : Gateway} {i : Nat} {v : GFut} (h : g.futs[i]? = some .pending) :
    gfutSet (some i) v g = (.ok (), { g with futs := g.futs.set i v }) := by
  simp [gfutSet, h]

/-- `if fut is not None and not fut.done(): fut.set_..(v)  else: <orElse>`, for the future in attribute `attr` -/
theorem guarded_set_else {β : Type} (attr : Gateway → Option Nat) (v : GFut) (orElse : PyM Gateway Unit) (K : PyM Gateway β)
    (g : Gateway) (hv : ∀ i, attr g = some i → i < g.futs.length) :
    (do let s ← PyM.get
        let c ← (if (attr s).isSome then (do let s' ← PyM.get; let d ← gfutDone (attr s'); pure (!d)) else (pure false))
        (if c then (do let s'' ← PyM.get; gfutSet (attr s'') v; pure ()) else orElse)
        K) g =
      if cell g.futs (attr g) = some .pending then K { g with futs := resolve g.futs (attr g) v }
      else (do orElse; K) g := by
  rw [PyM.bind_get_apply]
  cases ha : attr g with
  | none => simp [cell]
  | some i =>
    have hi := hv i ha
    by_cases hp : fget g.futs i = .pending
    · simp [ha, gfutDone_some hi, gfutSet_pending (getElem?_pending hi hp), hp, done_p, resolve, cell, absF_p]
    · simp [ha, gfutDone_some hi, done_of_ne _ hp, hp, cell, absF_pending]

theorem resolve_not_pending {futs : List GFut} {o : Option Nat} {v : GFut} (h : cell futs o ≠ some .pending) :
    resolve futs o v = futs := by
  cases o with
  | none => rfl
  | some i => simp_all [resolve, cell, absF_pending]

theorem guarded_set {β : Type} (attr : Gateway → Option Nat) (v : GFut) (K : PyM Gateway β)
    (g : Gateway) (hv : ∀ i, attr g = some i → i < g.futs.length) :
    (do let s ← PyM.get
        let c ← (if (attr s).isSome then (do let s' ← PyM.get; let d ← gfutDone (attr s'); pure (!d)) else (pure false))
        (if c then (do let s'' ← PyM.get; gfutSet (attr s'') v; pure ()) else (do pure ()))
        K) g = K { g with futs := resolve g.futs (attr g) v } := by
  rw [guarded_set_else attr v _ K g hv]
  split
  · rfl
  · next h => rw [resolve_not_pending h]; rfl

/-- `if self._connection_done_future: fut.set_result(exc); self._connection_done_future = None` -/
theorem conn_done_block {β : Type} (v : GFut) (K : PyM Gateway β) (g : Gateway)
    (hv : ∀ k, g.connection_done_future = some k → g.futs[k]? = some .pending) :
    (do let s ← PyM.get
        (if s.connection_done_future.isSome then (do
            let s' ← PyM.get
            gfutSet s'.connection_done_future v
            PyM.modify fun s => { s with connection_done_future := none }
            pure ()) else (do pure ()))
        K : PyM Gateway β) g = K { g with futs := resolve g.futs g.connection_done_future v, connection_done_future := none } := by
  obtain ⟨rf, sf, cf, cdf, tr, futs, trace, cl, sc⟩ := g
  rw [PyM.bind_get_apply]
  cases cdf with
  | none => rfl
  | some k => simp [gfutSet_pending (hv k rfl), hv k rfl, resolve, fget]

/-- `if self._reset_future: (if not fut.done(): fut.set_exception(..)); self._reset_future = None` -/
theorem reset_block {β : Type} (v : GFut) (K : PyM Gateway β) (g : Gateway)
    (hv : ∀ i, g.reset_future = some i → i < g.futs.length) :
    (do let s ← PyM.get
        (if s.reset_future.isSome then (do
            let s' ← PyM.get
            let d ← gfutDone s'.reset_future
            (if (!d) then (do let s'' ← PyM.get; gfutSet s''.reset_future v; pure ()) else (do pure ()))
            PyM.modify fun s => { s with reset_future := none }
            pure ()) else (do pure ()))
        K : PyM Gateway β) g = K { g with futs := resolve g.futs g.reset_future v, reset_future := none } := by
  obtain ⟨rf, sf, cf, cdf, tr, futs, trace, cl, sc⟩ := g
  rw [PyM.bind_get_apply]
  cases rf with
  | none => rfl
  | some i =>
    have hi := hv i rfl
    by_cases hp : fget futs i = .pending
    · simp [gfutDone_some hi, gfutSet_pending (getElem?_pending hi hp), hp, done_p, resolve]
    · simp [gfutDone_some hi, done_of_ne _ hp, hp, resolve]

/-- the gateway object after `connection_lost(exc)`: the three blocks of the source in their order -/
def lost (exc : Option ExcVal) (g : Gateway) : Gateway :=
  { g with
    futs := resolve (resolve (resolve g.futs g.startup_reset_future (.exc (exc.getD .connectionReset)))
      g.connection_done_future (.resultExc exc)) g.reset_future (.exc (exc.getD .connectionReset))
    connection_done_future := none
    reset_future := none
    trace := g.trace ++ if exc.isNone then [] else [.appConnectionLost exc] }

theorem getElem?_resolve_ne {futs : List GFut} {o : Option Nat} {v : GFut} {k : Nat} (h : o ≠ some k) :
    (resolve futs o v)[k]? = futs[k]? := by
  cases o with
  | none => rfl
  | some i =>
    have : i ≠ k := fun e => h (e ▸ rfl)
    simp only [resolve]; split
    · exact List.getElem?_set_ne this
    · rfl

theorem connection_lost_run (exc : Option ExcVal) (g : Gateway) (hw : WF g) :
    Gateway.connection_lost exc g = (.ok (), lost exc g) := by
  unfold Gateway.connection_lost
  rw [guarded_set (·.startup_reset_future) _ _ g hw.sv,
    conn_done_block _ _ _ (fun k hk => by
      rw [getElem?_resolve_ne (fun e => hw.sc _ _ e hk rfl)]; exact hw.cv k hk),
    reset_block _ _ _ (fun i hi => by simpa using hw.rv i hi)]
  cases exc <;> simp [lost, gemit]

/-- the gateway object after `reset_received(RESET_SOFTWARE)`: the reset request if one is pending, else the start-up waiter -/
def acked (g : Gateway) : Gateway :=
  { g with futs := if cell g.futs g.reset_future = some .pending then resolve g.futs g.reset_future .result
                   else resolve g.futs g.startup_reset_future .result }

theorem reset_received_ack (g : Gateway) (hw : WF g) : Gateway.reset_received 11 g = (.ok (), acked g) := by
  simp only [Gateway.reset_received, ne_eq, not_true_eq_false, decide_false, Bool.false_eq_true, if_false]
  rw [guarded_set_else (·.reset_future) _ _ _ g hw.rv]
  split
  · next h => simp [acked, h]
  · next h => rw [PyM.bind_apply, guarded_set (·.startup_reset_future) _ _ g hw.sv]; simp [acked, h]

theorem reset_received_other (g : Gateway) (code : Nat) (hc : code ≠ 11) :
    Gateway.reset_received code g = (.ok (), { g with trace := g.trace ++ [.appEnterFailed code] }) := by
  simp [Gateway.reset_received, hc, gemit]

theorem cell_resolve_self (futs : List GFut) (a : Option Nat) (v : GFut) (hv : ∀ i, a = some i → i < futs.length) :
    cell (resolve futs a v) a = if cell futs a = some .pending then some (absF v) else cell futs a := by
  cases a with
  | none => rfl
  | some i =>
    by_cases hp : fget futs i = .pending
    · simp [cell, fget_resolve_pending (getElem?_pending (hv i rfl) hp), hp, absF_p]
    · simp [cell, resolve, hp, absF_pending]

theorem cell_resolve_ne (futs : List GFut) (o a : Option Nat) (v : GFut) (h : ∀ i, o = some i → a ≠ some i) :
    cell (resolve futs o v) a = cell futs a := by
  cases a with
  | none => rfl
  | some k => simp only [cell, fget, getElem?_resolve_ne (fun e => h k e rfl)]

/-- given `r`, the waiters' clause of `Rel` says: while the attribute is set, the future the waiters hold is the attribute's -/
theorem Rel.attr {g : Gateway} {s : GW} (hr : Rel g s) {i : Nat} (hi : g.reset_future = some i) :
    s.resetFut = some s.waitFut := by rw [hr.r, hi, hr.w i hi]; rfl

theorem Rel.of_attr {g : Gateway} {s : GW} (r : s.resetFut = cell g.futs g.reset_future)
    (st : s.startupFut = cell g.futs g.startup_reset_future) (c : s.connDonePending = g.connection_done_future.isSome)
    (h : ∀ i, g.reset_future = some i → s.resetFut = some s.waitFut) : Rel g s :=
  ⟨r, st, c, fun i hi => by have := h i hi; rw [r, hi] at this; exact (Option.some.inj this).symm⟩

theorem WF.resolve {g : Gateway} (hw : WF g) (o : Option Nat) (v : GFut)
    (ho : ∀ k, g.connection_done_future = some k → o ≠ some k) : WF { g with futs := resolve g.futs o v } :=
  ⟨by simpa using hw.rv, by simpa using hw.sv, fun k hk => (getElem?_resolve_ne (ho k hk)).trans (hw.cv k hk),
    hw.rs, hw.rc, hw.sc⟩

theorem sim_resolve_reset {g : Gateway} {s : GW} (hw : WF g) (hr : Rel g s) (v : GFut) :
    WF { g with futs := resolve g.futs g.reset_future v } ∧
    Rel { g with futs := resolve g.futs g.reset_future v }
      { s with resetFut := if s.resetFut = some .pending then some (absF v) else s.resetFut
               waitFut := if s.resetFut = some .pending then absF v else s.waitFut } := by
  have hr' := cell_resolve_self g.futs g.reset_future v hw.rv
  have hs' := cell_resolve_ne g.futs g.reset_future g.startup_reset_future v (fun i hi e => hw.rs i i hi e rfl)
  rw [← hr.r] at hr'
  refine ⟨hw.resolve _ v (fun k hk e => hw.rc _ _ e hk rfl), .of_attr hr'.symm (hr.st.trans hs'.symm) hr.c fun i hi => ?_⟩
  dsimp only
  rw [hr.attr hi]
  split <;> rfl

theorem sim_resolve_startup {g : Gateway} {s : GW} (hw : WF g) (hr : Rel g s) (v : GFut) :
    WF { g with futs := resolve g.futs g.startup_reset_future v } ∧
    Rel { g with futs := resolve g.futs g.startup_reset_future v }
      { s with startupFut := if s.startupFut = some .pending then some (absF v) else s.startupFut } := by
  have hs' := cell_resolve_self g.futs g.startup_reset_future v hw.sv
  have hr' := cell_resolve_ne g.futs g.startup_reset_future g.reset_future v (fun i hi e => hw.rs i i e hi rfl)
  rw [← hr.st] at hs'
  exact ⟨hw.resolve _ v (fun k hk e => hw.sc _ _ e hk rfl), .of_attr (hr.r.trans hr'.symm) hs'.symm hr.c fun _ => hr.attr⟩

theorem sim_conn_done {g : Gateway} {s : GW} (hw : WF g) (hr : Rel g s) (v : GFut) :
    WF { g with futs := resolve g.futs g.connection_done_future v, connection_done_future := none } ∧
    Rel { g with futs := resolve g.futs g.connection_done_future v, connection_done_future := none }
      { s with connDonePending := false } := by
  have hr' := cell_resolve_ne g.futs g.connection_done_future g.reset_future v (fun k hk e => hw.rc k k e hk rfl)
  have hs' := cell_resolve_ne g.futs g.connection_done_future g.startup_reset_future v (fun k hk e => hw.sc k k e hk rfl)
  exact ⟨⟨by simpa using hw.rv, by simpa using hw.sv, nofun, hw.rs, nofun, nofun⟩,
    .of_attr (hr.r.trans hr'.symm) (hr.st.trans hs'.symm) rfl fun _ => hr.attr⟩

theorem sim_clear_reset {g : Gateway} {s : GW} (hw : WF g) (hr : Rel g s) :
    WF { g with reset_future := none } ∧ Rel { g with reset_future := none } { s with resetFut := none } :=
  ⟨⟨nofun, hw.sv, hw.cv, nofun, nofun, hw.sc⟩, rfl, hr.st, hr.c, nofun⟩

theorem connectionLost_waitFut (s : GW) (e : Bool) :
    (connectionLost s e).1.waitFut = if s.resetFut = some .pending then .exc else s.waitFut := by
  rw [connectionLost_fst]

theorem connectionLost_startupFut (s : GW) (e : Bool) :
    (connectionLost s e).1.startupFut = if s.startupFut = some .pending then some .exc else s.startupFut := by
  rw [connectionLost_fst]

/-- **`Gateway.connection_lost` is the model's `connectionLost`**: it never raises (`c11_connection_lost_never_raises`
at source level), pending waiters get the connection error, resolved ones are left alone, the connection-done future
is resolved with the reason, both attributes are cleared, and the application is told exactly when there was an error -/
theorem connection_lost_eq (g : Gateway) (s : GW) (exc : Option ExcVal) (hw : WF g) (hr : Rel g s) :
    (Gateway.connection_lost exc g).1 = .ok () ∧
    WF (Gateway.connection_lost exc g).2 ∧
    Rel (Gateway.connection_lost exc g).2 (connectionLost s exc.isSome).1 ∧
    (Gateway.connection_lost exc g).2.trace = g.trace ++ ((connectionLost s exc.isSome).2.flatMap (evOf exc)) ∧
    (Gateway.connection_lost exc g).2.reset_future = none ∧
    (Gateway.connection_lost exc g).2.connection_done_future = none ∧
    (Gateway.connection_lost exc g).2.startup_reset_future = g.startup_reset_future ∧
    (∀ i, g.reset_future = some i →
      (connectionLost s exc.isSome).1.waitFut = absF (fget (Gateway.connection_lost exc g).2.futs i)) ∧
    (∀ k, g.connection_done_future = some k → fget (Gateway.connection_lost exc g).2.futs k = .resultExc exc) := by
  rw [connection_lost_run exc g hw, connectionLost_fst, connectionLost_snd]
  obtain ⟨w1, r1⟩ := sim_resolve_startup hw hr (.exc (exc.getD .connectionReset))
  obtain ⟨w2, r2⟩ := sim_conn_done w1 r1 (.resultExc exc)
  dsimp only at w2 r2
  obtain ⟨w3, r3⟩ := sim_resolve_reset w2 r2 (.exc (exc.getD .connectionReset))
  dsimp only at w3 r3
  obtain ⟨w4, r4⟩ := sim_clear_reset w3 r3
  dsimp only at w4 r4
  refine ⟨rfl, ⟨w4.rv, w4.sv, w4.cv, w4.rs, w4.rc, w4.sc⟩, ⟨r4.r, r4.st, r4.c, r4.w⟩, ?_, rfl, rfl, rfl,
    fun i hi => r3.w i hi, fun k hk => ?_⟩
  · rw [hr.c]
    cases exc <;> cases g.connection_done_future <;> simp [lost, evOf]
  · have h2 : g.reset_future ≠ some k := fun e => hw.rc k k e hk rfl
    simp only [lost, fget, getElem?_resolve_ne h2, hk]
    exact fget_resolve_pending (w1.cv k hk)

/-- uart.py:51 tests `code is not t.NcpResetCode.RESET_SOFTWARE`; the translator writes the member's value into the generated
handler, the model uses the generated constant -/
theorem resetSoftware_eq : BV.Gen.Ash.resetSoftware = 11 := by decide

/-- **`Gateway.reset_received` is the model's `resetReceived`**: it never raises, the futures afterwards are the
model's, and the calls on the application are the model's outputs -/
theorem reset_received_eq (g : Gateway) (s : GW) (code : Nat) (hw : WF g) (hr : Rel g s) :
    ∃ g', Gateway.reset_received code g = (.ok (), g') ∧ WF g' ∧ Rel g' (resetReceived s code).1 ∧
      g'.trace = g.trace ++ ((resetReceived s code).2.flatMap (evOf none)) ∧
      g'.reset_future = g.reset_future ∧ g'.startup_reset_future = g.startup_reset_future ∧
      g'.connection_done_future = g.connection_done_future ∧ g'.transport = g.transport := by
  by_cases hc : code = 11
  · subst hc
    have hsoft := resetSoftware_eq ▸ resetReceived_software s
    have key : WF (acked g) ∧ Rel (acked g) (resetReceived s 11).1 := by
      rw [hsoft, acked, ← hr.r]
      by_cases hp : s.resetFut = some .pending
      · simpa [hp, absF_r] using sim_resolve_reset hw hr .result
      · by_cases hq : s.startupFut = some .pending <;> simpa [hp, hq, absF_r] using sim_resolve_startup hw hr .result
    exact ⟨_, reset_received_ack g hw, key.1, key.2, by simp [hsoft, acked], rfl, rfl, rfl, rfl⟩
  · have hm : resetReceived s code = (s, [.enterFailed code]) := by simp [resetReceived, resetSoftware_eq, hc]
    rw [hm]
    exact ⟨_, reset_received_other g code hc, ⟨hw.rv, hw.sv, hw.cv, hw.rs, hw.rc, hw.sc⟩, ⟨hr.r, hr.st, hr.c, hr.w⟩, rfl, rfl, rfl,
      rfl, rfl⟩

/-- `Gateway.error_received`: the application is told, nothing else -/
theorem error_received_eq (g : Gateway) (code : Nat) :
    Gateway.error_received code g = (.ok (), { g with trace := g.trace ++ [.appEnterFailed code] }) := by
  simp [Gateway.error_received, gemit]

/-- `Gateway.data_received`: the payload goes to the application -/
theorem data_received_eq (g : Gateway) (d : List UInt8) :
    Gateway.data_received d g = (.ok (), { g with trace := g.trace ++ [.appFrame d] }) := by
  simp [Gateway.data_received, gemit]

/-- `Gateway._reset_cleanup` (the reset future's done-callback) clears the attribute and nothing else -/
theorem reset_cleanup_eq (g : Gateway) (f : Nat) :
    Gateway.u_reset_cleanup f g = (.ok (), { g with reset_future := none }) := by
  simp [Gateway.u_reset_cleanup]

/-- `Gateway.eof_received` is `connection_lost` with a `ConnectionResetError` -/
theorem eof_received_eq (g : Gateway) :
    Gateway.eof_received g = Gateway.connection_lost (some .connectionReset) g := by
  simp only [Gateway.eof_received, PyM.bind_apply]
  rcases Gateway.connection_lost (some ExcVal.connectionReset) g with ⟨_ | _, g'⟩ <;> rfl

/-- `Gateway.close` closes the transport (AttributeError before `connection_made`) and touches nothing else -/
theorem close_eq (g : Gateway) :
    Gateway.close g = match g.transport with
      | some _ => (.ok (), { g with trace := g.trace ++ [.transportClose] })
      | none => (.error (.raised "AttributeError"), g) := by
  obtain ⟨rf, sf, cf, cdf, tr, futs, trace, cl, sc⟩ := g
  cases tr <;> simp [Gateway.close, gtransport]

def absG (g : Gateway) : GW :=
  { resetFut := cell g.futs g.reset_future, startupFut := cell g.futs g.startup_reset_future,
    connDonePending := g.connection_done_future.isSome,
    waitFut := match g.reset_future with
      | some i => absF (fget g.futs i)
      | none => .pending }

theorem rel_absG (g : Gateway) : Rel g (absG g) :=
  ⟨rfl, rfl, rfl, by intro i h; simp [absG, h]⟩

end BV.Proofs.Src.Uart
