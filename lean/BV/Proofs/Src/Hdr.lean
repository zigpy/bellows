/-
Source-level tie for the EZSP frame headers: `_ezsp_frame_tx` / `_ezsp_frame_rx` of EZSPv4, EZSPv5 and EZSPv8, as generated from
the syntax trees (BV/Gen/SrcHdrV4/5/8.lean), are the header layouts `txHeader` / `rxHeader` of the codec model that C07, C08 and C09
are about; which class supplies the two methods for each protocol version is read off the handler classes by reflection
(`BV.Gen.Accessors.definedBy`) and agrees with the model's `hdrOf`.
-/
import BV.Gen.SrcHdrV4
import BV.Gen.SrcHdrV5
import BV.Gen.SrcHdrV8
import BV.Gen.Accessors
import BV.Model.Ezsp.Codec
import BV.Proofs.Src.PyMSimp
namespace BV.Proofs.Src.Hdr
open BV.Py BV.Codec

theorem ofNat_toNat_eq (n : Nat) (h : n < 256) : (UInt8.ofNat n).toNat = n := UInt8.toNat_ofNat_of_lt' h

/-- legacy header, transmit: `[seq & 0xFF, 0, id]` (`hid`: a frame ID beyond one byte is a ValueError) -/
theorem v4_tx (h : Handler) (name : String) (id : Nat) (hl : h.cmds.lookup name = some id) (hid : id < 256) :
    BV.Src.HdrV4.frame_tx name h = (.ok (txHeader .v4 (h.seq % 256) id), h) := by
  have hm : h.seq &&& 255 = h.seq % 256 := Nat.and_two_pow_sub_one_eq_mod h.seq 8
  have hlt : h.seq % 256 < 256 := Nat.mod_lt _ (by decide)
  have hb : bytesOf [h.seq &&& 255, 0, id] = .ok [UInt8.ofNat (h.seq % 256), 0, UInt8.ofNat id] := by
    rw [hm]; simp [bytesOf, hlt, hid]
  simp only [BV.Src.HdrV4.frame_tx, pym, cmdLookup, hl, hb, txHeader]

/-- extended header of versions 5..7, transmit: `[seq, 0, 0xFF, 0, id]` -/
theorem v5_tx (h : Handler) (name : String) (id : Nat) (hl : h.cmds.lookup name = some id) (hid : id < 256) (hs : h.seq < 256) :
    BV.Src.HdrV5.frame_tx name h = (.ok (txHeader .v5 h.seq id), h) := by
  simp [BV.Src.HdrV5.frame_tx, pym, cmdLookup, hl, bytesOf, hs, hid, txHeader]

/-- header of versions 8 and later, transmit: `[seq, 0, 1, id low, id high]` -/
theorem v8_tx (h : Handler) (name : String) (id : Nat) (hl : h.cmds.lookup name = some id) (hid : id < 65536) (hs : h.seq < 256) :
    BV.Src.HdrV8.frame_tx name h = (.ok (txHeader .v8 h.seq id), h) := by
  simp [BV.Src.HdrV8.frame_tx, pym, cmdLookup, hl, bytesOf, hs, u16ser, hid, txHeader]

/-- the classes a parser raises on a frame too short for its header: none of them escapes an `except Exception` -/
def shortClasses : List String := ["IndexError", "ValueError"]

theorem not_baseOnly_of_mem_shortClasses {c : String} (h : c ∈ shortClasses) : c ∉ baseOnly := by
  rcases List.mem_cons.mp h with rfl | h
  · decide
  · obtain rfl := List.mem_singleton.mp h
    decide

/-- what a header parser answers where the model's `rxHeader` answers `o`: the triple, or an exception of class `c` -/
def hdrRes {α : Type} (c : String) : Option α → Except PyErr α
  | some r => .ok r
  | none => .error (.raised c)

/-- receive: what the three parsers return is the model's `rxHeader`; on frames too short for the header they raise
(IndexError / ValueError), where the model answers `none`; the handler is not touched -/
theorem v4_rx_eq (h : Handler) (d : List UInt8) :
    ∃ c, c ∈ shortClasses ∧ BV.Src.HdrV4.frame_rx d h = (hdrRes c (rxHeader .v4 d), h) := by
  rcases d with _ | ⟨a, _ | ⟨b, _ | ⟨c, r⟩⟩⟩ <;>
    simp [BV.Src.HdrV4.frame_rx, pym, byteAt, rxHeader, hdrRes, sliceFrom, shortClasses]

theorem v5_rx_eq (h : Handler) (d : List UInt8) :
    ∃ c, c ∈ shortClasses ∧ BV.Src.HdrV5.frame_rx d h = (hdrRes c (rxHeader .v5 d), h) := by
  rcases d with _ | ⟨a, _ | ⟨b, _ | ⟨c, _ | ⟨e, _ | ⟨f, r⟩⟩⟩⟩⟩ <;>
    simp [BV.Src.HdrV5.frame_rx, pym, byteAt, rxHeader, hdrRes, sliceFrom, shortClasses]

theorem v8_rx_eq (h : Handler) (d : List UInt8) :
    ∃ c, c ∈ shortClasses ∧ BV.Src.HdrV8.frame_rx d h = (hdrRes c (rxHeader .v8 d), h) := by
  rcases d with _ | ⟨a, _ | ⟨b, _ | ⟨c, _ | ⟨e, _ | ⟨f, r⟩⟩⟩⟩⟩ <;>
    simp [BV.Src.HdrV8.frame_rx, pym, byteAt, rxHeader, hdrRes, sliceFrom, u16de, shortClasses]

theorem hdrRes_parts {α σ : Type} {m : Except PyErr α × σ} {o : Option α} {h : σ}
    (e : ∃ c, c ∈ shortClasses ∧ m = (hdrRes c o, h)) :
    (m.1.toOption = o ∧ m.2 = h ∧ (o = none → ∃ c, m.1 = .error (.raised c))) ∧
    (o = none → ∃ c, c ∈ shortClasses ∧ m.1 = .error (.raised c)) := by
  obtain ⟨c, hc, rfl⟩ := e
  cases o <;> simp [hdrRes, Except.toOption, hc]

theorem v4_rx (h : Handler) (d : List UInt8) :
    ((BV.Src.HdrV4.frame_rx d h).1.toOption = rxHeader .v4 d) ∧ (BV.Src.HdrV4.frame_rx d h).2 = h ∧
    (rxHeader .v4 d = none → ∃ c, (BV.Src.HdrV4.frame_rx d h).1 = .error (.raised c)) := (hdrRes_parts (v4_rx_eq h d)).1

theorem v5_rx (h : Handler) (d : List UInt8) :
    ((BV.Src.HdrV5.frame_rx d h).1.toOption = rxHeader .v5 d) ∧ (BV.Src.HdrV5.frame_rx d h).2 = h ∧
    (rxHeader .v5 d = none → ∃ c, (BV.Src.HdrV5.frame_rx d h).1 = .error (.raised c)) := (hdrRes_parts (v5_rx_eq h d)).1

theorem v8_rx (h : Handler) (d : List UInt8) :
    ((BV.Src.HdrV8.frame_rx d h).1.toOption = rxHeader .v8 d) ∧ (BV.Src.HdrV8.frame_rx d h).2 = h ∧
    (rxHeader .v8 d = none → ∃ c, (BV.Src.HdrV8.frame_rx d h).1 = .error (.raised c)) := (hdrRes_parts (v8_rx_eq h d)).1

theorem v4_rx_cls (h : Handler) (d : List UInt8) (hn : rxHeader .v4 d = none) :
    ∃ c, c ∈ shortClasses ∧ (BV.Src.HdrV4.frame_rx d h).1 = .error (.raised c) := (hdrRes_parts (v4_rx_eq h d)).2 hn

theorem v5_rx_cls (h : Handler) (d : List UInt8) (hn : rxHeader .v5 d = none) :
    ∃ c, c ∈ shortClasses ∧ (BV.Src.HdrV5.frame_rx d h).1 = .error (.raised c) := (hdrRes_parts (v5_rx_eq h d)).2 hn

theorem v8_rx_cls (h : Handler) (d : List UInt8) (hn : rxHeader .v8 d = none) :
    ∃ c, c ∈ shortClasses ∧ (BV.Src.HdrV8.frame_rx d h).1 = .error (.raised c) := (hdrRes_parts (v8_rx_eq h d)).2 hn

/-- version of the class that `hdrOf` stands for -/
def hdrClass : Hdr → Nat
  | .v4 => 4
  | .v5 => 5
  | .v8 => 8

/-- for every protocol version with a handler, the class that supplies `_ezsp_frame_tx` and `_ezsp_frame_rx` (reflection over the
handler classes' MROs) is the one whose translation the model's `hdrOf` selects -/
theorem header_classes :
    ∀ r ∈ BV.Gen.Accessors.definedBy, (r.2.1 = "_ezsp_frame_tx" ∨ r.2.1 = "_ezsp_frame_rx") → r.2.2 = hdrClass (hdrOf r.1) := by
  decide +kernel

end BV.Proofs.Src.Hdr
