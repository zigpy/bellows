/-
Source-level tie for the EZSP command path: `ProtocolHandler.command`, `_ezsp_frame`, `_get_command_priority`
(bellows/ezsp/protocol.py) as generated from the syntax tree (BV/Gen/SrcCmd.lean), run against an arbitrary script of what the
environment does at its await points (BV/Py/CmdEnv.lean) - the frames received meanwhile go through the generated `__call__`.
-/
import BV.Gen.SrcCmd
import BV.Gen.Priority
import BV.Proofs.Src.Proto
import BV.Proofs.Src.PyDict
namespace BV.Proofs.Src.Cmd
open BV.Py BV.Codec BV.Src.Proto BV.Src.Cmd BV.Proofs.Src.Hdr BV.Proofs.Src.Proto

/-- no entry of `_awaiting` refers to a future that does not exist -/
def WF (s : Proto) : Prop := ∀ e ∈ s.awaiting, e.2.2 < s.futs.length

theorem WF.of_sub {s s' : Proto} (hw : WF s) (hl : s'.futs.length = s.futs.length) (hs : ∀ e ∈ s'.awaiting, e ∈ s.awaiting) :
    WF s' := fun e he => hl ▸ hw e (hs e he)

/-- one step of the receive path, as far as the command path cares -/
structure Step (s s' : Proto) : Prop where
  version : s'.version = s.version
  cmds : s'.cmds = s.cmds
  seq : s'.seq = s.seq
  script : s'.script = s.script
  protocol : s'.protocol = s.protocol
  futsLen : s'.futs.length = s.futs.length
  awaiting : s'.awaiting = s.awaiting ∨ ∃ sq, s'.awaiting = s.awaiting.filter (·.1 != sq)
  futs : ∀ i, s'.futs[i]? = s.futs[i]? ∨
    (s.futs[i]? = some .pending ∧ ∃ sq eid, s.awaiting.lookup sq = some (eid, i) ∧ s'.awaiting = s.awaiting.filter (·.1 != sq))
  trace : ∃ t, s'.trace = s.trace ++ t ∧ ∀ e ∈ t, ∃ n v, e = .callback n v

theorem Step.refl (s : Proto) : Step s s :=
  ⟨rfl, rfl, rfl, rfl, rfl, rfl, .inl rfl, fun _ => .inl rfl, [], by simp, by simp⟩

/-- **every byte string**: the generated `__call__` makes one `Step` and returns or raises an ordinary exception -/
theorem call_step (s : Proto) (d : List UInt8) (hw : WF s) :
    Step s (handler_call d s).2 ∧
    ((handler_call d s).1 = .ok () ∨ ∃ c, c ∉ baseOnly ∧ (handler_call d s).1 = .error (.raised c)) := by
  obtain ⟨c, hc, e⟩ := call_eq s d
  have hcb := not_baseOnly_of_mem_shortClasses hc
  rw [e]
  cases rxFrame s.version s.cmds d with
  | short => exact ⟨Step.refl s, .inr ⟨c, hcb, rfl⟩⟩
  | unknown id => exact ⟨Step.refl s, .inl rfl⟩
  | undecodable n => exact ⟨Step.refl s, .inr ⟨_, by decide, rfl⟩⟩
  | ok sq id name vals tr =>
    simp only [callSpec]
    obtain ⟨ha, hv, hcm, hsq, hsc, hpr, hlen⟩ := callOk_frame s sq id name vals
    refine ⟨⟨hv, hcm, hsq, hsc, hpr, hlen, ?_, fun i => ?_, ?_⟩,
      callOk_outcome s sq id name vals fun eid fid hl => hw _ (List.mem_of_lookup_eq_some hl)⟩
    · rw [ha]; split
      · exact .inr ⟨sq, rfl⟩
      · exact .inl rfl
    · rcases callOk_fut s sq id name vals i with h | ⟨eid, w, hl, hp, -, -⟩
      · exact .inl h
      · exact .inr ⟨hp, sq, eid, hl, by rw [ha, hl]; rfl⟩
    · rw [callOk_trace]; split
      · exact ⟨[.callback name vals], rfl, by simp⟩
      · exact ⟨[], by simp, by simp⟩

/-- any number of received frames: what `Step` says of one, weakened to what composes -/
structure Steps (s s' : Proto) : Prop where
  version : s'.version = s.version
  cmds : s'.cmds = s.cmds
  seq : s'.seq = s.seq
  script : s'.script = s.script
  protocol : s'.protocol = s.protocol
  futsLen : s'.futs.length = s.futs.length
  sub : ∀ e ∈ s'.awaiting, e ∈ s.awaiting
  stable : ∀ i : Nat, s.futs[i]? ≠ some PFut.pending → s'.futs[i]? = s.futs[i]?
  trace : ∃ t, s'.trace = s.trace ++ t ∧ ∀ e ∈ t, ∃ n v, e = .callback n v

theorem Steps.refl (s : Proto) : Steps s s := ⟨rfl, rfl, rfl, rfl, rfl, rfl, fun _ h => h, fun _ _ => rfl, [], by simp, by simp⟩

theorem Step.steps {s s' : Proto} (h : Step s s') : Steps s s' := by
  refine ⟨h.version, h.cmds, h.seq, h.script, h.protocol, h.futsLen, ?_, ?_, h.trace⟩
  · intro e he
    rcases h.awaiting with ha | ⟨sq, ha⟩
    · rw [ha] at he; exact he
    · rw [ha] at he; exact (List.mem_filter.mp he).1
  · intro i hi
    rcases h.futs i with h1 | ⟨h1, -⟩
    · exact h1
    · exact absurd h1 hi

theorem Steps.trans {a b c : Proto} (h1 : Steps a b) (h2 : Steps b c) : Steps a c := by
  refine ⟨h2.version.trans h1.version, h2.cmds.trans h1.cmds, h2.seq.trans h1.seq, h2.script.trans h1.script,
    h2.protocol.trans h1.protocol, h2.futsLen.trans h1.futsLen, fun e he => h1.sub e (h2.sub e he), ?_, ?_⟩
  · intro i hi
    have hb := h1.stable i hi
    rw [h2.stable i (by rw [hb]; exact hi), hb]
  · obtain ⟨t1, e1, p1⟩ := h1.trace
    obtain ⟨t2, e2, p2⟩ := h2.trace
    exact ⟨t1 ++ t2, by rw [e2, e1, List.append_assoc], List.forall_mem_append.mpr ⟨p1, p2⟩⟩

/-- a frame the guard does not even hand to the handler: none is configured, or the frame is empty -/
def ignored (s : Proto) (d : List UInt8) : Bool := s.protocol.isNone || d.isEmpty

/-- the generated `EZSP.frame_received` contains whatever the generated `__call__` raises: the frame is processed or ignored, the
caller never sees an exception -/
theorem frameReceived_eq (s : Proto) (d : List UInt8) (hw : WF s) :
    frameReceived d s = (.ok (), if ignored s d then s else (handler_call d s).2) := by
  unfold frameReceived BV.Src.EzspRx.frame_received ignored
  cases hp : s.protocol with
  | none => simp [pym, hp]
  | some u =>
    by_cases hd : d.isEmpty = true
    · simp [pym, hp, hd]
    · obtain ⟨-, ho⟩ := call_step s d hw
      rcases hx : handler_call d s with ⟨r, s'⟩
      rw [hx] at ho
      rcases ho with h | ⟨c, hc, h⟩
      · simp only at h; subst h
        simp [pym, hp, hd, hx]
      · simp only at h; subst h
        simp [pym, hp, hd, hx, PyErr.caughtBy, hc]

/-- `EZSP.frame_received` as a function on the handler (`frameReceived_eq`) -/
def rx (s : Proto) (d : List UInt8) : Proto := if ignored s d then s else (handler_call d s).2

theorem rx_step {s : Proto} (d : List UInt8) (hw : WF s) : Step s (rx s d) := by
  unfold rx; split
  · exact Step.refl s
  · exact (call_step s d hw).1

theorem rx_wf {s : Proto} (d : List UInt8) (hw : WF s) : WF (rx s d) :=
  hw.of_sub (rx_step d hw).futsLen (rx_step d hw).steps.sub

theorem deliverAll_eq (ds : List (List UInt8)) (s : Proto) (hw : WF s) : deliverAll ds s = (.ok (), ds.foldl rx s) := by
  induction ds generalizing s with
  | nil => rfl
  | cons d ds ih =>
    simp only [deliverAll, pym, frameReceived_eq s d hw, List.foldl_cons]
    exact ih _ (rx_wf d hw)

theorem run_inv {P : Proto → Prop} (ds : List (List UInt8)) (s : Proto) (hw : WF s) (h0 : P s)
    (hstep : ∀ d ∈ ds, ∀ t, WF t → P t → P (rx t d)) : WF (ds.foldl rx s) ∧ P (ds.foldl rx s) :=
  List.foldlRecOn (motive := fun t => WF t ∧ P t) ds rx ⟨hw, h0⟩ fun t ht d hd => ⟨rx_wf d ht.1, hstep d hd t ht.1 ht.2⟩

theorem run_steps (ds : List (List UInt8)) (s : Proto) (hw : WF s) : Steps s (ds.foldl rx s) :=
  (run_inv ds s hw (Steps.refl s) fun d _ _ ht h => h.trans (rx_step d ht).steps).2

/-- events that are not semaphore events: what may lie between the entry into `_send_semaphore` and its release -/
def Quiet (t : List PEv) : Prop := ∀ e ∈ t, e ≠ .release ∧ ∀ p, e ≠ .acquire p

theorem Quiet.nil : Quiet [] := fun _ h => nomatch h
theorem Quiet.append {a b : List PEv} (ha : Quiet a) (hb : Quiet b) : Quiet (a ++ b) := List.forall_mem_append.mpr ⟨ha, hb⟩

/-- callbacks and the entry into the bounded wait: the only events after the hand-over of the frame -/
def Calm (t : List PEv) : Prop := ∀ e ∈ t, (∃ n v, e = .callback n v) ∨ ∃ k, e = .wait k

theorem Calm.nil : Calm [] := fun _ h => nomatch h

theorem Calm.quiet {t : List PEv} (h : Calm t) : Quiet t := by
  intro e he
  rcases h e he with ⟨n, v, rfl⟩ | ⟨k, rfl⟩ <;> exact ⟨fun h => (by cases h), fun p h => (by cases h)⟩

theorem Calm.no_sent {t : List PEv} (h : Calm t) : ∀ e ∈ t, ∀ d, e ≠ .sent d := by
  intro e he d
  rcases h e he with ⟨n, v, rfl⟩ | ⟨k, rfl⟩ <;> exact fun h => (by cases h)

theorem Calm.append {a b : List PEv} (ha : Calm a) (hb : Calm b) : Calm (a ++ b) := List.forall_mem_append.mpr ⟨ha, hb⟩

theorem Steps.calm {s s' : Proto} (h : Steps s s') : ∃ t, s'.trace = s.trace ++ t ∧ Calm t := by
  obtain ⟨t, e, q⟩ := h.trace
  exact ⟨t, e, fun x hx => .inl (q x hx)⟩

/-- what the await points leave alone -/
structure Keeps (s s' : Proto) : Prop where
  version : s'.version = s.version
  cmds : s'.cmds = s.cmds
  seq : s'.seq = s.seq
  futsLen : s'.futs.length = s.futs.length
  sub : ∀ e ∈ s'.awaiting, e ∈ s.awaiting
  trace : ∃ t, s'.trace = s.trace ++ t ∧ Quiet t

theorem Keeps.refl (s : Proto) : Keeps s s := ⟨rfl, rfl, rfl, rfl, fun _ h => h, [], by simp, Quiet.nil⟩
theorem Keeps.trans {a b c : Proto} (h1 : Keeps a b) (h2 : Keeps b c) : Keeps a c := by
  obtain ⟨t1, e1, q1⟩ := h1.trace
  obtain ⟨t2, e2, q2⟩ := h2.trace
  exact ⟨h2.version.trans h1.version, h2.cmds.trans h1.cmds, h2.seq.trans h1.seq, h2.futsLen.trans h1.futsLen,
   fun e he => h1.sub e (h2.sub e he), t1 ++ t2, by rw [e2, e1, List.append_assoc], q1.append q2⟩
theorem Keeps.wf {s s' : Proto} (h : Keeps s s') (hw : WF s) : WF s' := hw.of_sub h.futsLen h.sub
theorem Steps.keeps {s s' : Proto} (h : Steps s s') : Keeps s s' :=
  have ⟨t, e, c⟩ := h.calm
  ⟨h.version, h.cmds, h.seq, h.futsLen, h.sub, t, e, c.quiet⟩
theorem Keeps.script (s : Proto) (r : List CResp) : Keeps s { s with script := r } :=
  ⟨rfl, rfl, rfl, rfl, fun _ h => h, [], by simp, Quiet.nil⟩

/-- an await point took its answer off the script and recorded its event.  `WF`, `Own` and `Mine` read neither field, so
what they say of `s` they say of `emit s e rest` by unfolding: proofs pass `hw : WF s` where `WF (emit s e rest)` is asked -/
def emit (s : Proto) (e : PEv) (rest : List CResp) : Proto := { s with script := rest, trace := s.trace ++ [e] }

theorem Keeps.emit (s : Proto) {e : PEv} (rest : List CResp) (h1 : e ≠ .release) (h2 : ∀ p, e ≠ .acquire p) :
    Keeps s (emit s e rest) :=
  ⟨rfl, rfl, rfl, rfl, fun _ h => h, [e], rfl, fun x hx => by rw [List.mem_singleton.mp hx]; exact ⟨h1, h2⟩⟩

/-- how the bounded wait ends, by the state of the call's future after the frames received meanwhile -/
def waitEnd (fid : Nat) (fin : WaitEnd) (s' : Proto) : Except PyErr Vals × Proto :=
  match s'.futs[fid]? with
  | some (.result v) => (.ok v, s')
  | some .invalidCommand => (.error (.raised "InvalidCommandError"), s')
  | some .finished => (.error (.raised "CancelledError"), s')
  | some .pending =>
    (.error (.raised (match fin with | .deadline => "TimeoutError" | .cancelled => "CancelledError")),
     { s' with futs := s'.futs.set fid .finished })
  | none => (.error (.unsupported "dangling future"), s')

theorem waitEnd_keeps (fid : Nat) (fin : WaitEnd) (s' : Proto) : Keeps s' (waitEnd fid fin s').2 := by
  unfold waitEnd
  cases s'.futs[fid]? with
  | none => exact Keeps.refl s'
  | some f =>
    cases f with
    | pending => exact ⟨rfl, rfl, rfl, by simp, fun _ h => h, [], by simp, Quiet.nil⟩   -- cancelled in place
    | _ => exact Keeps.refl s'

theorem waitEnd_ok {fid : Nat} {fin : WaitEnd} {s' : Proto} {v : Vals} (h : (waitEnd fid fin s').1 = .ok v) :
    s'.futs[fid]? = some (.result v) := by
  unfold waitEnd at h
  split at h <;> cases h
  assumption

theorem gwSend_eq {s : Proto} (d : List UInt8) (hw : WF s) :
    gwSend d s = match s.script with
      | .send frames out :: rest =>
        ((match out with | none => .ok () | some c => .error (.raised c)), frames.foldl rx (emit s (.sent d) rest))
      | _ :: rest => (.error (.unsupported "script shape"), { s with script := rest })
      | [] => (.error (.unsupported "script exhausted"), s) := by
  unfold gwSend nextResp
  rcases hs : s.script with _ | ⟨_ | ⟨frames, out⟩ | _, rest⟩ <;> simp only [pym, hs]
  have := deliverAll_eq frames (emit s (.sent d) rest) hw
  simp only [emit] at this
  cases out <;> simp [pemit, pym, this, emit]

theorem awaitFuture_eq {s : Proto} (fid t : Nat) (hw : WF s) :
    awaitFuture fid t s = match s.script with
      | .wait frames fin :: rest => waitEnd fid fin (frames.foldl rx (emit s (.wait t) rest))
      | _ :: rest => (.error (.unsupported "script shape"), { s with script := rest })
      | [] => (.error (.unsupported "script exhausted"), s) := by
  unfold awaitFuture nextResp
  rcases hs : s.script with _ | ⟨_ | _ | ⟨frames, fin⟩, rest⟩ <;> simp only [pym, hs]
  have := deliverAll_eq frames (emit s (.wait t) rest) hw
  simp only [emit] at this
  simp only [pemit, pym, this, emit, waitEnd]
  rcases (frames.foldl rx _).futs[fid]? with _ | (_ | _ | _ | _) <;> cases fin <;> rfl

theorem gwSend_keeps (d : List UInt8) (s : Proto) (hw : WF s) : Keeps s (gwSend d s).2 := by
  rw [gwSend_eq d hw]
  split
  · exact (Keeps.emit s (e := .sent d) _ nofun nofun).trans (run_steps _ (emit s _ _) hw).keeps
  · exact Keeps.script s _
  · exact Keeps.refl s

theorem awaitFuture_keeps (fid t : Nat) (s : Proto) (hw : WF s) : Keeps s (awaitFuture fid t s).2 := by
  rw [awaitFuture_eq fid t hw]
  split
  · exact ((Keeps.emit s (e := .wait t) _ nofun nofun).trans (run_steps _ (emit s _ _) hw).keeps).trans (waitEnd_keeps _ _ _)
  · exact Keeps.script s _
  · exact Keeps.refl s

/-- entries that hold the call's future, or sit under its sequence number, are the call's own entry -/
def Own (s : Proto) (seq cid fid : Nat) : Prop := ∀ e ∈ s.awaiting, (e.2.2 = fid ∨ e.1 = seq) → e = (seq, (cid, fid))

theorem Own.sub {s s' : Proto} {seq cid fid : Nat} (h : Own s seq cid fid) (hs : ∀ e ∈ s'.awaiting, e ∈ s.awaiting) :
    Own s' seq cid fid := fun e he => h e (hs e he)

theorem lookup_of_own {s : Proto} {seq cid fid : Nat} (ho : Own s seq cid fid) (hm : (seq, (cid, fid)) ∈ s.awaiting) :
    s.awaiting.lookup seq = some (cid, fid) := by
  cases hl : s.awaiting.lookup seq with
  | none => exact absurd (List.lookup_eq_none_iff.mp hl _ hm) (by simp)
  | some x =>
    have := ho _ (List.mem_of_lookup_eq_some hl) (.inr rfl)
    simp only [Prod.mk.injEq, true_and] at this
    rw [this]

theorem rxFrame_nonempty {v : Nat} {cs : List Cmd} {d : List UInt8} {sq id : Nat} {nm : String} {vals : Vals} {tr : List UInt8}
    (h : rxFrame v cs d = .ok sq id nm vals tr) : d.isEmpty = false := by
  cases d with
  | nil => unfold rxFrame rxHeader at h; cases hdrOf v <;> simp at h
  | cons a r => rfl

/-- the call `seq cid fid` is in flight in `t`, a later state of the handler whose version and table are `v` and `cs` -/
structure Mine (v : Nat) (cs : List Cmd) (seq cid fid : Nat) (t : Proto) : Prop where
  version : t.version = v
  cmds : t.cmds = cs
  own : Own t seq cid fid

theorem Mine.rx {v cs seq cid fid t} (h : Mine v cs seq cid fid t) (d : List UInt8) (hw : WF t) : Mine v cs seq cid fid (rx t d) :=
  have hs := rx_step d hw
  ⟨hs.version.trans h.version, hs.cmds.trans h.cmds, h.own.sub hs.steps.sub⟩

theorem Mine.emit {v cs seq cid fid t} (h : Mine v cs seq cid fid t) (e : PEv) (r : List CResp) : Mine v cs seq cid fid (emit t e r) :=
  ⟨h.version, h.cmds, h.own⟩

/-- the step of the timeout and of the wait before the reply: frames under other numbers leave the call as registered -/
theorem kept_step {v cs seq cid fid t} {d : List UInt8} (hm : Mine v cs seq cid fid t) (hp : t.futs[fid]? = some .pending)
    (hno : ∀ id nm w tr, rxFrame v cs d ≠ .ok seq id nm w tr) :
    (rx t d).futs[fid]? = some .pending ∧ ((seq, (cid, fid)) ∈ t.awaiting → (seq, (cid, fid)) ∈ (rx t d).awaiting) := by
  unfold rx; split
  · exact ⟨hp, id⟩
  · rw [← hm.version, ← hm.cmds] at hno
    constructor
    · -- the future changes only by a frame under whose number it is registered: the call's own number
      rcases call_fut t d fid with e | ⟨sq, id, nm, w, tr, eid, x, hc, hl, -⟩
      · rw [e, hp]
      · have := hm.own _ (List.mem_of_lookup_eq_some hl) (.inl rfl)
        simp only [Prod.mk.injEq] at this
        exact absurd (this.1 ▸ hc) (hno id nm w tr)
    · intro hmem
      rcases call_awaiting t d with e | ⟨sq, id, nm, w, tr, hc, e⟩
      · rw [e]; exact hmem
      · rw [e]
        exact List.mem_filter.mpr ⟨hmem, by simpa using fun h : seq = sq => hno id nm w tr (h ▸ hc)⟩

/-- **only the own reply gives values**: a frame that does not decode, as a reply proper, with the call's sequence number and
frame ID to the values `w` does not make the call's future hold `w` -/
theorem noresult_step {v cs seq cid fid t} {d : List UInt8} {w : Vals} (hm : Mine v cs seq cid fid t)
    (hn : t.futs[fid]? ≠ some (.result w)) (h : ∀ nm tr, rxFrame v cs d = .ok seq cid nm w tr → nm = "invalidCommand") :
    (rx t d).futs[fid]? ≠ some (.result w) := by
  unfold rx; split
  · exact hn
  · rcases call_fut t d fid with e | ⟨sq, id, nm, vals, tr, eid, x, hc, hl, -, hv, e⟩
    · rw [e]; exact hn
    · rw [e]; rintro ⟨⟩
      obtain ⟨hnm, rfl, rfl⟩ := verdict_result hv
      have := hm.own _ (List.mem_of_lookup_eq_some hl) (.inl rfl)
      simp only [Prod.mk.injEq] at this
      obtain ⟨rfl, rfl, -⟩ := this
      rw [hm.version, hm.cmds] at hc
      exact hnm (h nm tr hc)

/-- the step of completeness: the own reply, meeting the call as registered, resolves its future -/
theorem reply_step {v cs seq cid fid t} {d : List UInt8} {nm : String} {w : Vals} {tr : List UInt8} (hm : Mine v cs seq cid fid t)
    (hin : (seq, (cid, fid)) ∈ t.awaiting) (hp : t.futs[fid]? = some .pending) (hd : rxFrame v cs d = .ok seq cid nm w tr)
    (hnm : nm ≠ "invalidCommand") (hpr : t.protocol = some ()) : (rx t d).futs[fid]? = some (.result w) := by
  have hne : ignored t d = false := by simp [ignored, hpr, rxFrame_nonempty hd]
  rw [← hm.version, ← hm.cmds] at hd
  simp only [rx, hne, Bool.false_eq_true, ↓reduceIte,
    call_reply t d seq cid fid nm w tr hd (lookup_of_own hm.own hin) hnm hp]
  simp [(List.getElem?_eq_some_iff.mp hp).1]

@[simp] theorem rethrow_apply {σ α} (r : Except PyErr α) (s : σ) :
    (match r with | .ok rv => (pure rv : PyM σ α) | .error e_ => PyM.throw e_) s = (r, s) := by cases r <;> rfl

/-- the `finally` block of `command`, as generated -/
def cleanup (seq future : Nat) : PyM Proto Unit := (do
  let f13 ← awaitingFutAt seq
  (if (f13 == some future) then (do
      awaitingDel seq
      pure ()
    ) else (do
      pure ()
    ))
  pure ())

theorem cleanup_eq {s : Proto} {seq cid fid : Nat} (ho : Own s seq cid fid) : cleanup seq fid s = (.ok (), popped s seq) := by
  unfold cleanup awaitingFutAt awaitingDel popped
  cases hl : s.awaiting.lookup seq with
  | none =>
    have : s.awaiting.filter (·.1 != seq) = s.awaiting :=
      List.filter_eq_self.mpr fun e he => by simpa [bne_comm] using List.lookup_eq_none_iff.mp hl e he
    simp [pym, hl, this]
  | some x =>
    obtain rfl : x = (cid, fid) := by simpa using ho _ (List.mem_of_lookup_eq_some hl) (.inr rfl)
    simp [pym, hl]

/-- the state after `future = create_future()` and `self._awaiting[seq] = (cmd_id, rx_schema, future)` -/
def registered (s : Proto) (seq cid : Nat) : Proto :=
  { s with futs := s.futs ++ [.pending],
           awaiting := if s.awaiting.any (·.1 == seq)
                       then s.awaiting.map fun e => if e.1 == seq then (seq, (cid, s.futs.length)) else e
                       else s.awaiting ++ [(seq, (cid, s.futs.length))] }

theorem mem_registered {s : Proto} {seq cid : Nat} {e : Nat × Nat × Nat} :
    e ∈ (registered s seq cid).awaiting ↔ e = (seq, (cid, s.futs.length)) ∨ (e ∈ s.awaiting ∧ e.1 ≠ seq) :=
  mem_dictSet s.awaiting seq (cid, s.futs.length)

theorem registered_spec {s : Proto} (seq cid : Nat) (hw : WF s) :
    WF (registered s seq cid) ∧ Own (registered s seq cid) seq cid s.futs.length ∧
    (registered s seq cid).futs[s.futs.length]? = some .pending ∧ (seq, (cid, s.futs.length)) ∈ (registered s seq cid).awaiting := by
  refine ⟨fun e he => ?_, fun e he hor => ?_, by simp [registered], mem_registered.mpr (.inl rfl)⟩
  · rw [show (registered s seq cid).futs.length = s.futs.length + 1 by simp [registered]]
    rcases mem_registered.mp he with rfl | ⟨h1, -⟩
    · exact Nat.lt_succ_self _
    · exact Nat.lt_succ_of_lt (hw e h1)
  · rcases mem_registered.mp he with h | ⟨h1, h2⟩
    · exact h
    · rcases hor with h | h
      · exact absurd h (Nat.ne_of_lt (hw e h1))
      · exact absurd h h2

/-- the header code of the handler's class, on the handler's own counter and table: the model's `txHeader` -/
theorem frameTx_eq (s : Proto) (name : String) (c : Cmd) (hc : findByName s.cmds name = some c) (hs : s.seq < 256)
    (hid : c.id ≤ maxId (hdrOf s.version)) :
    frameTx name s = (.ok (txHeader (hdrOf s.version) s.seq c.id), s) := by
  have hl : ((s.cmds.map fun c => (c.name, c.id)).lookup name) = some c.id := by
    rw [List.lookup_map_pair Cmd.name Cmd.id, show s.cmds.find? _ = some c from hc]; rfl
  unfold frameTx
  cases hh : hdrOf s.version with
  | v4 =>
    rw [hh] at hid
    have := v4_tx { seq := s.seq, cmds := s.cmds.map fun c => (c.name, c.id) } name c.id hl (Nat.lt_succ_of_le hid)
    simp only [this, Nat.mod_eq_of_lt hs]
  | v5 =>
    rw [hh] at hid
    have := v5_tx { seq := s.seq, cmds := s.cmds.map fun c => (c.name, c.id) } name c.id hl (Nat.lt_succ_of_le hid) hs
    simp only [this]
  | v8 =>
    rw [hh] at hid
    have := v8_tx { seq := s.seq, cmds := s.cmds.map fun c => (c.name, c.id) } name c.id hl (Nat.lt_succ_of_le hid) hs
    simp only [this]

/-- the payload `_ezsp_frame` appends: by the schema's kind -/
def txBody (c : Cmd) (args : Vals) (kwargs : KwVals) : Except PyErr (List UInt8) :=
  if schemaIsDict c.tx then serDict args kwargs c.tx else serStruct args kwargs c.tx

/-- **`_ezsp_frame`**: the version's header with the handler's current sequence number and the command's frame ID, then the
arguments serialised by the declared schema; it changes nothing -/
theorem ezsp_frame_eq (s : Proto) (name : String) (args : Vals) (kwargs : KwVals) (c : Cmd) (hc : findByName s.cmds name = some c)
    (hs : s.seq < 256) (hid : c.id ≤ maxId (hdrOf s.version)) :
    ezsp_frame name args kwargs s =
      ((txBody c args kwargs).map (txHeader (hdrOf s.version) s.seq c.id ++ ·), s) := by
  have hf := frameTx_eq s name c hc hs hid
  unfold ezsp_frame txBody
  by_cases hd : schemaIsDict c.tx = true
  · cases hb : serDict args kwargs c.tx <;>
      simp [pym, cmdByName, hc, hf, hd, hb, Except.map]
  · cases hb : serStruct args kwargs c.tx <;>
      simp [pym, cmdByName, hc, hf, hd, hb, Except.map]

theorem ezsp_frame_unknown (s : Proto) (name : String) (args : Vals) (kwargs : KwVals) (hc : findByName s.cmds name = none) :
    ezsp_frame name args kwargs s = (.error (.raised "KeyError"), s) := by
  simp [ezsp_frame, pym, cmdByName, hc]

theorem ezsp_frame_state (s : Proto) (name : String) (args : Vals) (kwargs : KwVals) : (ezsp_frame name args kwargs s).2 = s := by
  unfold ezsp_frame
  cases hc : findByName s.cmds name with
  | none => simp [pym, cmdByName, hc]
  | some c =>
    simp only [pym, cmdByName, hc]
    rcases hx : frameTx name s with ⟨r, s'⟩
    obtain rfl : s' = s := (congrArg Prod.snd hx).symm
    cases r with
    | error e => rfl
    | ok h =>
      by_cases hd : schemaIsDict c.tx = true
      · cases serDict args kwargs c.tx <;> simp [hd, pym]
      · cases serStruct args kwargs c.tx <;> simp [hd, pym]

/-- the priority table the translator's reflection pass extracts (BV/Gen/Priority.lean), as a function -/
def prioOf (name : String) : Int := (BV.Gen.Priority.nonZero.lookup name).getD 0

/-- the generated `_get_command_priority` is that table, for every name: the literal dict in the source and the reflected
table list the same nine names in different orders -/
theorem get_command_priority_eq (name : String) (s : Proto) : get_command_priority name s = (.ok (prioOf name), s) := by
  unfold get_command_priority prioOf BV.Gen.Priority.nonZero
  exact congrArg (fun o : Option Int => ((.ok (o.getD 0) : Except PyErr Int), s))
    (List.lookup_ext (by simp [List.lookup]) (by simp [List.lookup]) name)

/-- leaving `async with self._send_semaphore(..)`: `semRelease` records the release -/
def releaseSt (s : Proto) : Proto := { s with trace := s.trace ++ [.release] }

/-- the body of the inner `try`: hand the frame over, then the bounded wait for the reply; `10` is `EZSP_CMD_TIMEOUT`
(bellows/ezsp/protocol.py, `BV.Gen.Priority.ezspCmdTimeout`), as the generated `command` passes it to `awaitFuture` -/
def waitPhase (data : List UInt8) (fid : Nat) : PyM Proto Vals := fun s =>
  match gwSend data s with
  | (.ok _, s') => awaitFuture fid 10 s'
  | (.error e, s') => (.error e, s')

/-- the caller is cancelled while queued for the semaphore (or the script does not start with an answer to the acquisition):
nothing of the handler is touched -/
theorem command_not_granted (s : Proto) (name : String) (args : Vals) (kwargs : KwVals)
    (hs : ∀ rest, s.script ≠ .acquire true :: rest) : ∃ e r, command name args kwargs s = (.error e, { s with script := r }) := by
  unfold command
  simp only [pym, get_command_priority_eq, semAcquire, nextResp]
  cases h : s.script with
  | nil => exact ⟨_, s.script, rfl⟩
  | cons r rest =>
    cases r with
    | acquire g =>
      cases g with
      | true => exact absurd h (hs rest)
      | false => exact ⟨_, rest, rfl⟩
    | send f o => exact ⟨_, rest, rfl⟩
    | wait f w => exact ⟨_, rest, rfl⟩

/-- the state in which the critical section starts -/
def entered (s : Proto) (name : String) (rest : List CResp) : Proto :=
  { s with script := rest, trace := s.trace ++ [.acquire (prioOf name)] }

/-- **`command` with the semaphore granted**, phase by phase: build the frame (a failure releases the semaphore and changes
nothing else); register under the current sequence number with a fresh future and advance the counter; the two awaits; the
`finally` block; the release -/
theorem command_granted (s : Proto) (name : String) (args : Vals) (kwargs : KwVals) (rest : List CResp)
    (hs : s.script = .acquire true :: rest) :
    command name args kwargs s =
      match ezsp_frame name args kwargs (entered s name rest) with
      | (.error e, _) => (.error e, releaseSt (entered s name rest))
      | (.ok data, _) =>
        match findByName s.cmds name with
        | none => (.error (.raised "KeyError"), releaseSt (entered s name rest))
        | some c =>
          match waitPhase data s.futs.length { registered (entered s name rest) s.seq c.id with seq := (s.seq + 1) % 256 } with
          | (r, s3) =>
            match cleanup s.seq s.futs.length s3 with
            | (.ok _, s4) => (r, releaseSt s4)
            | (.error e, s4) => (.error e, releaseSt s4) := by
  have hst := ezsp_frame_state (entered s name rest) name args kwargs
  unfold command
  -- the `finally` block is folded into `cleanup` before anything is unfolded: no case below looks inside it
  simp only [← cleanup.eq_1]
  simp only [pym, get_command_priority_eq, semAcquire, nextResp, hs, pemit, cmdByName, newFut, awaitingSet, waitPhase, entered] at hst ⊢
  rcases hx : ezsp_frame name args kwargs { s with script := rest, trace := s.trace ++ [.acquire (prioOf name)] } with ⟨_ | data, s1⟩
  · rw [hx] at hst; subst hst; rfl
  · rw [hx] at hst; subst hst
    dsimp only
    cases findByName s.cmds name with
    | none => rfl
    | some c =>
      dsimp only [registered]
      rcases gwSend data _ with ⟨_ | _, sg⟩
      · rcases cleanup s.seq s.futs.length sg with ⟨_ | _, s4⟩ <;> rfl
      · dsimp only
        rcases awaitFuture s.futs.length 10 sg with ⟨ra, sa⟩
        rcases cleanup s.seq s.futs.length sa with ⟨_ | _, s4⟩ <;> cases ra <;> rfl

theorem waitPhase_keeps {s : Proto} (data : List UInt8) (fid : Nat) (hw : WF s) : Keeps s (waitPhase data fid s).2 := by
  unfold waitPhase
  have h1 := gwSend_keeps data s hw
  rcases hg : gwSend data s with ⟨rg, sg⟩
  rw [hg] at h1
  cases rg with
  | error e => exact h1
  | ok u => exact h1.trans (awaitFuture_keeps fid 10 sg (h1.wf hw))

theorem script_cases (s : Proto) : (∃ rest, s.script = .acquire true :: rest) ∨ (∀ rest, s.script ≠ .acquire true :: rest) := by
  cases s.script with
  | cons r rest =>
    cases r with
    | acquire g =>
      cases g with
      | true => exact .inl ⟨rest, rfl⟩
      | false => exact .inr nofun
    | _ => exact .inr nofun
  | nil => exact .inr nofun

/-- the state in which the two awaits run: the semaphore entered, the call registered under the current sequence number with a
fresh future, the counter advanced -/
def started (s : Proto) (name : String) (rest : List CResp) (cid : Nat) : Proto :=
  { registered (entered s name rest) s.seq cid with seq := (s.seq + 1) % 256 }

theorem started_spec {s : Proto} (name : String) (rest : List CResp) (cid : Nat) (hw : WF s) :
    WF (started s name rest cid) ∧ Mine s.version s.cmds s.seq cid s.futs.length (started s name rest cid) ∧
    (started s name rest cid).futs[s.futs.length]? = some .pending ∧ (s.seq, (cid, s.futs.length)) ∈ (started s name rest cid).awaiting :=
  have ⟨h1, h2, h3, h4⟩ := registered_spec s.seq cid (s := entered s name rest) hw
  ⟨h1, ⟨rfl, rfl, h2⟩, h3, h4⟩

theorem started_futs_length (s : Proto) (name : String) (rest : List CResp) (cid : Nat) :
    (started s name rest cid).futs.length = s.futs.length + 1 := by simp [started, registered, entered]

theorem started_trace (s : Proto) (name : String) (rest : List CResp) (cid : Nat) :
    (started s name rest cid).trace = s.trace ++ [.acquire (prioOf name)] := rfl

/-- **`command`, granted, frame built**: the two awaits run from `started` and keep what `Keeps` says; then the `finally` block
takes out what is under the call's number - its own entry, if still there - and the semaphore is released -/
theorem command_run {s : Proto} {name : String} {args : Vals} {kwargs : KwVals} {rest : List CResp} {c : Cmd} {data : List UInt8}
    (hw : WF s) (hs : s.script = .acquire true :: rest)
    (hc : findByName s.cmds name = some c) (hfr : (ezsp_frame name args kwargs (entered s name rest)).1 = .ok data) :
    ∃ r s3, waitPhase data s.futs.length (started s name rest c.id) = (r, s3) ∧ Keeps (started s name rest c.id) s3 ∧
      command name args kwargs s = (r, releaseSt (popped s3 s.seq)) := by
  obtain ⟨hw2, hm2, -⟩ := started_spec name rest c.id hw
  have hk := waitPhase_keeps data s.futs.length hw2
  rcases hwp : waitPhase data s.futs.length (started s name rest c.id) with ⟨r, s3⟩
  rw [hwp] at hk
  refine ⟨r, s3, rfl, hk, ?_⟩
  rw [command_granted s name args kwargs rest hs]
  rcases hx : ezsp_frame name args kwargs (entered s name rest) with ⟨_, s1⟩
  obtain rfl : _ = Except.ok data := hx ▸ hfr
  simp only [hc]
  show (match waitPhase data s.futs.length (started s name rest c.id) with
    | (r, s3) => match cleanup s.seq s.futs.length s3 with
      | (.ok _, s4) => (r, releaseSt s4)
      | (.error e, s4) => (.error e, releaseSt s4)) = _
  rw [hwp]
  simp only [cleanup_eq (hm2.own.sub hk.sub)]

theorem command_cases {s : Proto} {rest : List CResp} (name : String) (args : Vals) (kwargs : KwVals)
    (hs : s.script = .acquire true :: rest) :
    (∃ e, command name args kwargs s = (.error e, releaseSt (entered s name rest))) ∨
    ∃ c data, findByName s.cmds name = some c ∧ (ezsp_frame name args kwargs (entered s name rest)).1 = .ok data := by
  rw [command_granted s name args kwargs rest hs]
  rcases hx : ezsp_frame name args kwargs (entered s name rest) with ⟨_ | data, s1⟩
  · exact .inl ⟨_, rfl⟩
  · cases hc : findByName s.cmds name with
    | none => exact .inl ⟨_, rfl⟩
    | some c => exact .inr ⟨c, data, rfl, rfl⟩

/-- **no entry is left behind**, for every script, fitting the awaits or not: `c06_src_no_entry_left`; the heap grows by at most
the call's future -/
theorem command_sub (s : Proto) (name : String) (args : Vals) (kwargs : KwVals) (hw : WF s) :
    (∀ e ∈ (command name args kwargs s).2.awaiting, e ∈ s.awaiting) ∧ WF (command name args kwargs s).2 ∧
    s.futs.length ≤ (command name args kwargs s).2.futs.length ∧ (command name args kwargs s).2.futs.length ≤ s.futs.length + 1 := by
  rcases script_cases s with ⟨rest, hs⟩ | hs
  · rcases command_cases name args kwargs hs with ⟨e, he⟩ | ⟨c, data, hc, hfr⟩
    · rw [he]; exact ⟨fun _ h => h, hw, Nat.le_refl _, Nat.le_succ _⟩
    · obtain ⟨r, s3, -, hk, e⟩ := command_run hw hs hc hfr
      have hlen : s3.futs.length = s.futs.length + 1 := hk.futsLen.trans (started_futs_length s name rest c.id)
      rw [e]
      refine ⟨fun x hx => ?_, fun x hx => hk.wf (started_spec name rest c.id hw).1 x (List.mem_filter.mp hx).1, ?_, ?_⟩
      · obtain ⟨h3, hk3⟩ := List.mem_filter.mp hx
        rcases mem_registered.mp (hk.sub x h3) with h | ⟨h, -⟩
        · simp [h] at hk3
        · exact h
      · show s.futs.length ≤ s3.futs.length
        omega
      · show s3.futs.length ≤ s.futs.length + 1
        omega
  · obtain ⟨e, r, he⟩ := command_not_granted s name args kwargs hs
    rw [he]
    exact ⟨fun _ h => h, hw, Nat.le_refl _, Nat.le_succ _⟩

/-- **the semaphore is left exactly once, and last**: `c06_src_release_once` -/
theorem command_trace (s : Proto) (name : String) (args : Vals) (kwargs : KwVals) (hw : WF s) :
    ((∀ rest, s.script ≠ .acquire true :: rest) → (command name args kwargs s).2.trace = s.trace) ∧
    (∀ rest, s.script = .acquire true :: rest →
      ∃ t, (command name args kwargs s).2.trace = s.trace ++ [.acquire (prioOf name)] ++ t ++ [.release] ∧ Quiet t) := by
  constructor
  · intro hs
    obtain ⟨e, r, he⟩ := command_not_granted s name args kwargs hs
    rw [he]
  · intro rest hs
    rcases command_cases name args kwargs hs with ⟨e, he⟩ | ⟨c, data, hc, hfr⟩
    · rw [he]; exact ⟨[], by simp [releaseSt, entered], Quiet.nil⟩
    · obtain ⟨r, s3, -, hk, e⟩ := command_run hw hs hc hfr
      obtain ⟨t, et, qt⟩ := hk.trace
      rw [e]
      refine ⟨t, ?_, qt⟩
      simp only [releaseSt, popped]
      rw [et, started_trace, List.append_assoc]

theorem waitEnd_trace (fid : Nat) (fin : WaitEnd) (s' : Proto) : (waitEnd fid fin s').2.trace = s'.trace := by
  unfold waitEnd; split <;> rfl

theorem awaitFuture_calm (fid k : Nat) (s : Proto) (hw : WF s) : ∃ t, (awaitFuture fid k s).2.trace = s.trace ++ t ∧ Calm t := by
  rw [awaitFuture_eq fid k hw]
  split
  · obtain ⟨t, et, ct⟩ := (run_steps _ (emit s (.wait k) _) hw).calm
    refine ⟨[.wait k] ++ t, ?_, Calm.append (fun e he => .inr ⟨k, by simpa using he⟩) ct⟩
    rw [waitEnd_trace, et]; simp [emit]
  · exact ⟨[], by simp, Calm.nil⟩
  · exact ⟨[], by simp, Calm.nil⟩

theorem waitPhase_sent {s : Proto} {frames : List (List UInt8)} {out : Option String} {rest : List CResp} (data : List UInt8)
    (fid : Nat) (hw : WF s) (hs : s.script = .send frames out :: rest) :
    ∃ t, (waitPhase data fid s).2.trace = s.trace ++ [.sent data] ++ t ∧ Calm t := by
  unfold waitPhase
  rw [gwSend_eq data hw, hs]
  have hw1 : WF (emit s (.sent data) rest) := hw
  have hst := run_steps frames _ hw1
  obtain ⟨t, et, ct⟩ := hst.calm
  cases out with
  | some c => exact ⟨t, et, ct⟩
  | none =>
    obtain ⟨t2, et2, ct2⟩ := awaitFuture_calm fid 10 _ (hst.keeps.wf hw1)
    exact ⟨t ++ t2, by rw [et2, et]; simp [emit], ct.append ct2⟩

/-- **register, then send, under the next sequence number**: `c06_src_request` -/
theorem command_sends (s : Proto) (name : String) (args : Vals) (kwargs : KwVals) (c : Cmd) (b : List UInt8)
    (frames : List (List UInt8)) (out : Option String) (rest : List CResp) (hw : WF s)
    (hs : s.script = .acquire true :: .send frames out :: rest) (hc : findByName s.cmds name = some c) (hq : s.seq < 256)
    (hid : c.id ≤ maxId (hdrOf s.version)) (hb : txBody c args kwargs = .ok b) :
    (∃ t, (command name args kwargs s).2.trace =
        s.trace ++ [.acquire (prioOf name), .sent (txHeader (hdrOf s.version) s.seq c.id ++ b)] ++ t ++ [.release] ∧
        Calm t) ∧
    (command name args kwargs s).2.seq = (s.seq + 1) % 256 := by
  have hfe := ezsp_frame_eq (entered s name (.send frames out :: rest)) name args kwargs c hc hq hid
  rw [hb] at hfe
  obtain ⟨r, s3, ew, hk, e⟩ := command_run (data := txHeader (hdrOf s.version) s.seq c.id ++ b) hw hs hc (by rw [hfe]; rfl)
  obtain ⟨t, et, ct⟩ := waitPhase_sent (txHeader (hdrOf s.version) s.seq c.id ++ b) s.futs.length (started_spec name _ c.id hw).1 rfl
  rw [ew] at et
  rw [e]
  exact ⟨⟨t, (congrArg (· ++ [PEv.release]) et).trans (by simp [started_trace]), ct⟩, hk.seq⟩

/-- on a script that fits, the two awaits are two runs of received frames and then `waitEnd` -/
theorem waitPhase_eq {s : Proto} {f1 f2 : List (List UInt8)} {fin : WaitEnd} {rest : List CResp} (data : List UInt8) (fid : Nat)
    (hw : WF s) (hs : s.script = .send f1 none :: .wait f2 fin :: rest) :
    waitPhase data fid s =
      waitEnd fid fin (f2.foldl rx (emit (f1.foldl rx (emit s (.sent data) (.wait f2 fin :: rest))) (.wait 10) rest)) := by
  have hst := run_steps f1 (emit s (.sent data) (.wait f2 fin :: rest)) hw
  unfold waitPhase
  rw [gwSend_eq data hw, hs]
  dsimp only
  rw [awaitFuture_eq fid 10 (hst.keeps.wf hw), hst.script]
  rfl

/-- the rule by which soundness and the timeout are proved: a property of the handler that survives both recorded events and
every frame received meanwhile holds of the state whose future ends the wait -/
theorem waitPhase_inv {P : Proto → Prop} {s : Proto} {f1 f2 : List (List UInt8)} {fin : WaitEnd} {rest : List CResp}
    (data : List UInt8) (fid : Nat) (hw : WF s) (hs : s.script = .send f1 none :: .wait f2 fin :: rest) (h0 : P s)
    (hemit : ∀ t e r, P t → P (emit t e r)) (hstep : ∀ d ∈ f1 ++ f2, ∀ t, WF t → P t → P (rx t d)) :
    ∃ sb, P sb ∧ waitPhase data fid s = waitEnd fid fin sb := by
  have ⟨hwa, hpa⟩ := run_inv f1 (emit s (.sent data) (.wait f2 fin :: rest)) hw (hemit s _ _ h0)
    fun d hd => hstep d (List.mem_append_left _ hd)
  exact ⟨_, (run_inv f2 (emit _ (.wait 10) rest) hwa (hemit _ _ _ hpa) fun d hd => hstep d (List.mem_append_right _ hd)).2,
    waitPhase_eq data fid hw hs⟩

theorem waitPhase_ok {data : List UInt8} {fid : Nat} {s : Proto} {v : Vals} (hw : WF s) (h : (waitPhase data fid s).1 = .ok v) :
    ∃ f1 f2 fin rest, s.script = .send f1 none :: .wait f2 fin :: rest := by
  unfold waitPhase at h
  rw [gwSend_eq data hw] at h
  -- by the shape of the script: after anything but a hand-over that returns, `h` equates an error with a value
  cases hs : s.script with
  | cons r rest =>
    cases r with
    | send f1 out =>
      cases out with
      | none =>
        have hst := run_steps f1 (emit s (.sent data) rest) hw
        simp only [hs] at h
        rw [awaitFuture_eq fid 10 (hst.keeps.wf hw), hst.script] at h
        -- and likewise after anything but the wait
        cases rest with
        | cons r' rest' =>
          cases r' with
          | wait f2 fin => exact ⟨f1, f2, fin, rest', rfl⟩
          | _ => cases h
        | nil => cases h
      | some cl => simp only [hs] at h; cases h
    | _ => simp only [hs] at h; cases h
  | nil => simp only [hs] at h; cases h

/-- **a value comes only from the own reply**: `c06_src_own_reply` -/
theorem command_result (s : Proto) (name : String) (args : Vals) (kwargs : KwVals) (v : Vals) (sf : Proto) (hw : WF s)
    (h : command name args kwargs s = (.ok v, sf)) :
    ∃ c f1 f2 fin rest, s.script = .acquire true :: .send f1 none :: .wait f2 fin :: rest ∧ findByName s.cmds name = some c ∧
      ∃ d ∈ f1 ++ f2, ∃ nm tr, rxFrame s.version s.cmds d = .ok s.seq c.id nm v tr ∧ nm ≠ "invalidCommand" := by
  rcases script_cases s with ⟨rest, hs⟩ | hs
  rotate_left
  · obtain ⟨e, r, he⟩ := command_not_granted s name args kwargs hs
    rw [he] at h; cases h
  rcases command_cases name args kwargs hs with ⟨e, he⟩ | ⟨c, data, hc, hfr⟩
  · rw [he] at h; cases h
  obtain ⟨r, s3, ew, -, e⟩ := command_run hw hs hc hfr
  obtain rfl : r = .ok v := by rw [e] at h; exact congrArg Prod.fst h
  obtain ⟨hw2, hm2, hp2, -⟩ := started_spec name rest c.id hw
  obtain ⟨f1, f2, fin, rest', hsc⟩ := waitPhase_ok hw2 (congrArg Prod.fst ew)
  obtain rfl : rest = .send f1 none :: .wait f2 fin :: rest' := hsc
  -- if no frame were the own reply with these values, the future could not hold them when the wait ends
  refine ⟨c, f1, f2, fin, rest', hs, hc, Classical.byContradiction fun hne => ?_⟩
  -- then every frame is one for `noresult_step`: as a reply proper with the call's number and ID it does not decode to `v`
  have hfr : ∀ d ∈ f1 ++ f2, ∀ nm tr, rxFrame s.version s.cmds d = .ok s.seq c.id nm v tr → nm = "invalidCommand" :=
    fun d hd nm tr hrx => Classical.byContradiction fun hnm => hne ⟨d, hd, nm, tr, hrx, hnm⟩
  obtain ⟨sb, ⟨-, hnb⟩, ew'⟩ := waitPhase_inv
    (P := fun t => Mine s.version s.cmds s.seq c.id s.futs.length t ∧ t.futs[s.futs.length]? ≠ some (.result v))
    data s.futs.length hw2 rfl ⟨hm2, by rw [hp2]; rintro ⟨⟩⟩
    (fun t e r h => ⟨h.1.emit e r, h.2⟩)
    (fun d hd t ht h => ⟨h.1.rx d ht, noresult_step h.1 h.2 (hfr d hd)⟩)
  exact hnb (waitEnd_ok (congrArg Prod.fst (ew'.symm.trans ew)))

/-- **the timeout**: `c06_src_timeout` -/
theorem command_timeout (s : Proto) (name : String) (args : Vals) (kwargs : KwVals) (c : Cmd) (data : List UInt8)
    (f1 f2 : List (List UInt8)) (fin : WaitEnd) (rest : List CResp) (hw : WF s)
    (hs : s.script = .acquire true :: .send f1 none :: .wait f2 fin :: rest) (hc : findByName s.cmds name = some c)
    (hfr : (ezsp_frame name args kwargs (entered s name (.send f1 none :: .wait f2 fin :: rest))).1 = .ok data)
    (hno : ∀ d ∈ f1 ++ f2, ∀ id nm v tr, rxFrame s.version s.cmds d ≠ .ok s.seq id nm v tr) :
    (command name args kwargs s).1 = .error (.raised (match fin with | .deadline => "TimeoutError" | .cancelled => "CancelledError")) ∧
    (command name args kwargs s).2.futs[s.futs.length]? = some .finished := by
  obtain ⟨r, s3, ew, -, e⟩ := command_run hw hs hc hfr
  obtain ⟨hw2, hm2, hp2, -⟩ := started_spec name (.send f1 none :: .wait f2 fin :: rest) c.id hw
  obtain ⟨sb, ⟨-, hpb⟩, ew'⟩ := waitPhase_inv
    (P := fun t => Mine s.version s.cmds s.seq c.id s.futs.length t ∧ t.futs[s.futs.length]? = some .pending)
    data s.futs.length hw2 rfl ⟨hm2, hp2⟩
    (fun t e r h => ⟨h.1.emit e r, h.2⟩) (fun d hd t ht h => ⟨h.1.rx d ht, (kept_step h.1 h.2 (hno d hd)).1⟩)
  have ew := ew'.symm.trans ew
  simp only [waitEnd, hpb] at ew
  cases ew
  rw [e]
  exact ⟨by cases fin <;> rfl, by simp [releaseSt, popped, (List.getElem?_eq_some_iff.mp hpb).1]⟩

/-- **the own reply is returned**: `c06_src_reply_returned` -/
theorem command_reply (s : Proto) (name : String) (args : Vals) (kwargs : KwVals) (c : Cmd) (data : List UInt8)
    (f1 pre post : List (List UInt8)) (d : List UInt8) (fin : WaitEnd) (rest : List CResp) (nm : String) (v : Vals) (tr : List UInt8)
    (hw : WF s) (hs : s.script = .acquire true :: .send f1 none :: .wait (pre ++ d :: post) fin :: rest)
    (hc : findByName s.cmds name = some c)
    (hfr : (ezsp_frame name args kwargs (entered s name (.send f1 none :: .wait (pre ++ d :: post) fin :: rest))).1 = .ok data)
    (hno : ∀ x ∈ f1 ++ pre, ∀ id nm v tr, rxFrame s.version s.cmds x ≠ .ok s.seq id nm v tr)
    (hd : rxFrame s.version s.cmds d = .ok s.seq c.id nm v tr) (hnm : nm ≠ "invalidCommand") (hpr : s.protocol = some ()) :
    (command name args kwargs s).1 = .ok v := by
  obtain ⟨r, s3, ew, -, e⟩ := command_run hw hs hc hfr
  obtain ⟨hw2, hm2, hp2, hin2⟩ := started_spec name (.send f1 none :: .wait (pre ++ d :: post) fin :: rest) c.id hw
  rw [e]
  show r = _
  rw [← show (waitPhase data s.futs.length (started s name _ c.id)).1 = r from congrArg Prod.fst ew, waitPhase_eq data _ hw2 rfl]
  -- until the reply arrives the call stays as it was registered: entry in place, future pending
  let P : Proto → Prop := fun t => Mine s.version s.cmds s.seq c.id s.futs.length t ∧ t.futs[s.futs.length]? = some .pending ∧
    (s.seq, (c.id, s.futs.length)) ∈ t.awaiting ∧ t.protocol = some ()
  have hP : ∀ x ∈ f1 ++ pre, ∀ t, WF t → P t → P (rx t x) := fun x hx t ht h =>
    have hk := kept_step h.1 h.2.1 (hno x hx)
    ⟨h.1.rx x ht, hk.1, hk.2 h.2.2.1, (rx_step x ht).protocol.trans h.2.2.2⟩
  obtain ⟨hwa, hpa⟩ := run_inv (P := P) f1 (emit (started s name _ c.id) (.sent data) _) hw2
    ⟨hm2.emit _ _, hp2, hin2, hpr⟩
    fun x hx => hP x (List.mem_append_left _ hx)
  obtain ⟨hwb, hmb, hpb, hinb, hprb⟩ := run_inv (P := P) pre (emit _ (.wait 10) rest) hwa ⟨hpa.1.emit _ _, hpa.2⟩
    fun x hx => hP x (List.mem_append_right _ hx)
  -- the reply resolves it, and nothing after it changes a resolved future
  have hres := reply_step hmb hinb hpb hd hnm hprb
  have hst := (run_steps post _ (rx_wf d hwb)).stable s.futs.length (by rw [hres]; rintro ⟨⟩)
  simp only [List.foldl_append, List.foldl_cons, waitEnd]
  rw [hst, hres]

end BV.Proofs.Src.Cmd
