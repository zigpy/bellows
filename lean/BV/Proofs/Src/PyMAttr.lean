import Lean.Meta.Tactic.Simp.RegisterCommand

/-- unfolds the operations of the `PyM` monad: what every evaluation of generated code starts with -/
register_simp_attr pym
