/-
The frame model (masks and shifts, bit-serial CRC, `_stuff_bytes`, the generated table) agrees piece by piece with
the specification's plain-arithmetic description; most facts about a single byte are checked on all 256 values.
-/
import BV.Proofs.Ash.CrcBytes
import BV.Spec.AshFrame
namespace BV.Ash
open BV.Gen.Ash BV.Spec.Ash

theorem xor20_xor20 (c : UInt8) : (c ^^^ 0x20) ^^^ 0x20 = c := by
  rw [UInt8.xor_assoc]; simp

theorem isReserved_cases {c : UInt8} (h : isReserved c = true) :
    c = 17 ∨ c = 19 ∨ c = 24 ∨ c = 26 ∨ c = 125 ∨ c = 126 := by
  simpa [isReserved, reservedBytes] using h

theorem reserved_xor_not_reserved (c : UInt8) (h : isReserved c = true) : isReserved (c ^^^ 0x20) = false := by
  rcases isReserved_cases h with h | h | h | h | h | h <;> subst h <;> decide

theorem reserved_xor_ne_escape (c : UInt8) (h : isReserved c = true) : (c ^^^ 0x20 == resEscape) = false := by
  rcases isReserved_cases h with h | h | h | h | h | h <;> subst h <;> decide

theorem unstuff_stuff (bs : List UInt8) : unstuff (stuff bs) = some bs := by
  unfold unstuff
  induction bs with
  | nil => simp [stuff, unstuffAux]
  | cons c cs ih =>
    unfold stuff
    split
    · rename_i h
      simp [unstuffAux, xor20_xor20, h, ih]
    · rename_i h
      have hne : (c == resEscape) = false := beq_eq_false_iff_ne.mpr fun e => h (e ▸ by decide)
      simp [unstuffAux, hne, ih]

theorem stuff_clean (bs : List UInt8) : ∀ b ∈ stuff bs, isReserved b = true → b = resEscape := by
  induction bs with
  | nil => simp [stuff]
  | cons c cs ih =>
    unfold stuff
    split
    · rename_i h
      intro b hb hr
      simp at hb
      rcases hb with rfl | rfl | hb
      · rfl
      · have := reserved_xor_not_reserved c h; simp [this] at hr
      · exact ih b hb hr
    · rename_i h
      intro b hb hr
      simp at hb
      rcases hb with rfl | hb
      · simp [hr] at h
      · exact ih b hb hr

theorem specReserved_eq : ∀ c : UInt8, specReserved c = isReserved c := by
  apply forall_uint8; decide +kernel

/-- the specification inverts bit 5 arithmetically: adding 32 modulo 64 swaps the halves of each block of 64 -/
theorem flip5_eq : ∀ c : UInt8, UInt8.ofNat ((c.toNat + 32) % 64 + c.toNat / 64 * 64) = c ^^^ 0x20 := by
  apply forall_uint8; decide +kernel

theorem specStuff_eq (bs : List UInt8) : specStuff bs = stuff bs := by
  induction bs with
  | nil => rfl
  | cons c cs ih =>
    simp only [specStuff, List.flatMap_cons] at ih ⊢
    rw [ih, stuff, specReserved_eq, flip5_eq]
    split <;> simp [resEscape]

theorem pseudoRandom_eq : pseudoRandom = randSeq := by decide +kernel

theorem pseudoRandom_length : pseudoRandom.length = 256 := by decide +kernel

theorem xorSeq_length (p s : List UInt8) (h : p.length ≤ s.length) : (xorSeq p s).length = p.length := by
  induction p generalizing s with
  | nil => cases s <;> simp [xorSeq]
  | cons x xs ih =>
    cases s with
    | nil => simp at h
    | cons y ys => simp [xorSeq]; exact ih _ (by simpa using h)

theorem xorSeq_invol (p s : List UInt8) (h : p.length ≤ s.length) : xorSeq (xorSeq p s) s = p := by
  induction p generalizing s with
  | nil => cases s <;> simp [xorSeq]
  | cons x xs ih =>
    cases s with
    | nil => simp at h
    | cons y ys =>
      simp only [xorSeq, List.cons.injEq]
      refine ⟨?_, ih _ (by simpa using h)⟩
      rw [UInt8.xor_assoc]; simp

theorem randomize_invol (p : List UInt8) (h : p.length ≤ pseudoRandom.length) :
    randomize (randomize p) = p := xorSeq_invol p _ h

theorem randomize_length (p : List UInt8) (h : p.length ≤ pseudoRandom.length) :
    (randomize p).length = p.length := xorSeq_length p _ h

theorem crcByte_toNat (s : W) (b : UInt8) : (crcByte s b).toNat = crcByteN s.toNat b := by
  rw [crcByte_eq]
  have hb := b.toNat_lt
  have hx : (s ^^^ hiByte b).toNat = s.toNat ^^^ (b.toNat * 256) := by
    have : b.toNat * 256 % 65536 = b.toNat * 256 := by omega
    simp [hiByte, BitVec.toNat_xor, this]
  have hs : ∀ t, mulxNat t = crcShift t := mulxNat_eq
  simp only [mulxN, mulx_toNat, crcByteN, hx, hs]

theorem crcFrom_toNat (s : W) (bs : List UInt8) : (crcFrom s bs).toNat = bs.foldl crcByteN s.toNat :=
  (List.foldl_hom BitVec.toNat fun s b => (crcByte_toNat s b).symm).symm

theorem crc_toNat (bs : List UInt8) : (crc bs).toNat = crc16 bs := by
  simpa [crc, crc16] using crcFrom_toNat 0xFFFF bs

theorem specAppendCrc_eq (bs : List UInt8) : specAppendCrc bs = appendCrc bs := by
  simp [specAppendCrc, appendCrc, crcBytes, crc_toNat]

theorem ctl_data : ∀ f, f < 8 → ∀ r : Bool, ∀ a, a < 8 →
    ctlData f r a = UInt8.ofNat (16 * f + 8 * b2n r + a) ∧
    classify (ctlData f r a) = some .data ∧ bit (ctlData f r a) 0x70 4 = f ∧
    (bit (ctlData f r a) 0x08 3 != 0) = r ∧ bit (ctlData f r a) 0x07 0 = a := by decide +kernel

theorem ctl_ack : ∀ s n : Bool, ∀ a, a < 8 →
    ctlAck s n a = UInt8.ofNat (0x80 + 16 * b2n s + 8 * b2n n + a) ∧
    classify (ctlAck s n a) = some .ack ∧ (bit (ctlAck s n a) 0x10 4 != 0) = s ∧
    (bit (ctlAck s n a) 0x08 3 != 0) = n ∧ bit (ctlAck s n a) 0x07 0 = a := by decide +kernel

theorem ctl_nak : ∀ s n : Bool, ∀ a, a < 8 →
    ctlNak s n a = UInt8.ofNat (0xA0 + 16 * b2n s + 8 * b2n n + a) ∧
    classify (ctlNak s n a) = some .nak ∧ (bit (ctlNak s n a) 0x10 4 != 0) = s ∧
    (bit (ctlNak s n a) 0x08 3 != 0) = n ∧ bit (ctlNak s n a) 0x07 0 = a := by decide +kernel

theorem classify_spec : ∀ c : UInt8, classify c = specClass c.toNat := by
  apply forall_uint8; decide +kernel

theorem fields_spec : ∀ c : UInt8,
    bit c 0x70 4 = c.toNat / 16 % 8 ∧ (bit c 0x08 3 != 0) = decide (c.toNat / 8 % 2 = 1) ∧
    bit c 0x07 0 = c.toNat % 8 ∧ (bit c 0x10 4 != 0) = decide (c.toNat / 16 % 2 = 1) := by
  apply forall_uint8; decide +kernel

/-- `parse` looks at the first byte before it unwraps, so it needs the frame in `cons` form -/
theorem appendCrc_cons (c : UInt8) (rest : List UInt8) :
    appendCrc (c :: rest) = c :: (rest ++ crcBytes (crc (c :: rest))) := rfl

theorem unwrap_cons_crc (c : UInt8) (rest : List UInt8) :
    unwrap (c :: (rest ++ crcBytes (crc (c :: rest)))) = .ok (c, rest) := by
  rw [← appendCrc_cons]
  have hl : (appendCrc (c :: rest)).length = (c :: rest).length + 2 := by simp [appendCrc, crcBytes]
  have ht : (appendCrc (c :: rest)).take ((c :: rest).length) = c :: rest := by
    unfold appendCrc; exact List.take_left' rfl
  have hd : (appendCrc (c :: rest)).drop ((c :: rest).length) = crcBytes (crc (c :: rest)) := by
    unfold appendCrc; exact List.drop_left' rfl
  unfold unwrap
  rw [hl]
  simp only [Nat.add_sub_cancel, ht, hd]
  simp

end BV.Ash
