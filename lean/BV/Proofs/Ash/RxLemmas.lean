/-
Facts about the receiver model `BV.Ash.onFrame`: `_handle_ack` touches only the ack futures, and with the
transport open a step neither raises nor closes it.
-/
import BV.Model.Ash.Receiver
namespace BV.Ash
open BV.Gen.Ash

/-- with TX_K = 1 `_handle_ack` looks at one frame number -/
theorem handleAck_eq (s : Rx) (a : Nat) :
    handleAck s a = { s with pending := match s.pending.lookup ((a + 8 - 1) % 8) with
      | some .waiting => setFut s.pending ((a + 8 - 1) % 8) .acked
      | _ => s.pending } := by
  have : txK = 1 := rfl
  simp only [handleAck, this, List.range_one, List.foldl_cons, List.foldl_nil, Nat.sub_zero]
  cases s.pending.lookup ((a + 8 - 1) % 8) with
  | none => rfl
  | some f => cases f <;> rfl

/-- `_handle_ack` touches the ack futures only -/
theorem handleAck_fields (s : Rx) (a : Nat) :
    (handleAck s a).rxSeq = s.rxSeq ∧ (handleAck s a).txSeq = s.txSeq ∧
    (handleAck s a).open_ = s.open_ ∧ (handleAck s a).failed = s.failed ∧
    (handleAck s a).ackTimeoutReset = s.ackTimeoutReset := by
  rw [handleAck_eq]; exact ⟨rfl, rfl, rfl, rfl, rfl⟩

theorem onData_open (t : Rx) (h : t.open_ = true) (n : Nat) (r : Bool) (p : List UInt8) :
    onData t n r p =
      if n = t.rxSeq then ({ t with rxSeq := (n + 1) % 8 }, [.write (wire [] (.ack false false ((n + 1) % 8))), .up p])
      else if r = true then (t, [.write (wire [] (.ack false false t.rxSeq))])
      else (t, [.write (wire [] (.nak false false t.rxSeq))]) := by
  simp only [onData, writeFrame, h]
  by_cases hn : n = t.rxSeq
  · simp [hn]
  · cases r <;> simp [hn]

theorem onData_evs (t : Rx) (n : Nat) (r : Bool) (p : List UInt8) :
    ∀ e ∈ (onData t n r p).2, e = .raised ∨ (∃ b, e = .write b) ∨ (e = .up p ∧ n = t.rxSeq) := by
  unfold onData writeFrame
  by_cases h1 : n = t.rxSeq <;> by_cases h2 : t.open_ = true <;> cases r <;> simp_all

theorem onFrame_data (s : Rx) (n : Nat) (r : Bool) (a : Nat) (p : List UInt8) :
    ∃ t : Rx, onFrame s (.data n r a p) = onData t n r p ∧ t.rxSeq = s.rxSeq ∧ t.open_ = s.open_ ∧
      t.txSeq = s.txSeq ∧ t.failed = s.failed :=
  have ⟨h1, h2, h3, h4, _⟩ := handleAck_fields { s with ackTimeoutReset := false } a
  ⟨_, rfl, h1, h3, h2, h4⟩

theorem onFrame_open (s : Rx) (f : Frame) : (onFrame s f).1.open_ = s.open_ := by
  cases f with
  | data n r a p =>
    obtain ⟨t, ht, -, h3, -⟩ := onFrame_data s n r a p
    rw [ht, ← h3]
    by_cases hn : n = t.rxSeq <;> cases r <;> cases ho : t.open_ <;> simp [onData, writeFrame, hn, ho]
  | ack x y a => simp [onFrame, (handleAck_fields _ a).2.2.1]
  | nak x y a => simp [onFrame, cancelPending, (handleAck_fields _ a).2.2.1]
  | rst => simp [onFrame]
  | rstack v c => simp [onFrame]
  | error v c => simp [onFrame, cancelPending]

theorem onFrame_no_raised (s : Rx) (ho : s.open_ = true) (f : Frame) : Ev.raised ∉ (onFrame s f).2 := by
  cases f with
  | data n r a q =>
    obtain ⟨t, ht, -, h3, -⟩ := onFrame_data s n r a q
    rw [ht, onData_open t (by rw [h3]; exact ho)]
    split
    · simp
    · split <;> simp
  | _ => simp [onFrame]

end BV.Ash
