/-
Algebra of the CRC model: `mulx` is XOR-linear and injective; shifting bits in is affine;
the orbit of the generator under `mulx` does not return within 32 766 steps (kernel-checked).
-/
import BV.Model.Ash.Crc
namespace BV.Ash

theorem mulx_xor (a b : W) : mulx (a ^^^ b) = mulx a ^^^ mulx b := by
  have cancel : ∀ x y p : W, x ^^^ p ^^^ (y ^^^ p) = x ^^^ y := fun x y p =>
    calc x ^^^ p ^^^ (y ^^^ p) = x ^^^ y ^^^ (p ^^^ p) := by ac_rfl
      _ = x ^^^ y := by simp
  unfold mulx poly
  rw [BitVec.msb_xor]
  -- each operand whose top bit is set is reduced by `poly` once
  cases ha : a.msb <;> cases hb : b.msb
  · simp [BitVec.shiftLeft_xor_distrib]
  · simp [BitVec.shiftLeft_xor_distrib]; ac_rfl
  · simp [BitVec.shiftLeft_xor_distrib]; ac_rfl
  · simp [BitVec.shiftLeft_xor_distrib]; rw [cancel]  -- both: the sum's top bit is clear, and the two `poly` cancel

/-- `BitVec.zero_xor` for the numeral `0 : W`, which `rw` does not unify with `0#16` -/
theorem zero_xor (t : W) : 0 ^^^ t = t := BitVec.zero_xor

theorem mulx_zero : mulx 0 = 0 := by decide

theorem mulx_eq_zero (t : W) (h : mulx t = 0) : t = 0 := by
  unfold mulx poly at h
  cases hm : t.msb
  · simp [hm] at h
    have : t.toNat < 32768 := by
      have := BitVec.msb_eq_false_iff_two_mul_lt.mp hm; omega
    bv_omega
  · simp [hm] at h
    have h0 : (t <<< 1 ^^^ 4129#16).getLsbD 0 = true := by
      simp
    rw [h] at h0
    simp at h0

theorem mulx_inj (a b : W) (h : mulx a = mulx b) : a = b :=
  BitVec.xor_eq_zero_iff.mp (mulx_eq_zero _ (by rw [mulx_xor, h]; simp))

def mulxN : Nat → W → W
  | 0, t => t
  | n + 1, t => mulxN n (mulx t)

theorem mulxN_xor (n : Nat) (a b : W) : mulxN n (a ^^^ b) = mulxN n a ^^^ mulxN n b := by
  induction n generalizing a b with
  | zero => rfl
  | succ n ih => simp [mulxN, mulx_xor, ih]

theorem mulxN_zero (n : Nat) : mulxN n 0 = 0 := by
  induction n with
  | zero => rfl
  | succ n ih => simp only [mulxN]; rw [show mulx (0 : W) = 0 from mulx_zero]; exact ih

theorem mulxN_inj (n : Nat) (a b : W) (h : mulxN n a = mulxN n b) : a = b := by
  induction n generalizing a b with
  | zero => exact h
  | succ n ih => exact mulx_inj _ _ (ih _ _ h)

theorem mulxN_add (m n : Nat) (t : W) : mulxN (m + n) t = mulxN n (mulxN m t) := by
  induction m generalizing t with
  | zero => simp [mulxN]
  | succ m ih => rw [Nat.succ_add]; simp [mulxN, ih]

theorem mulxN_succ' (n : Nat) (t : W) : mulxN (n + 1) t = mulx (mulxN n t) := by
  rw [mulxN_add]; rfl

theorem crcBits_xor (bs : List Bool) (a b : W) :
    crcBits (a ^^^ b) bs = crcBits a bs ^^^ mulxN bs.length b := by
  induction bs generalizing a b with
  | nil => simp [crcBits, mulxN]
  | cons x xs ih =>
    have : crcBit (a ^^^ b) x = crcBit a x ^^^ mulx b := by
      unfold crcBit
      rw [← mulx_xor]; congr 1; ac_rfl
    simp only [crcBits, List.foldl_cons, List.length_cons] at ih ⊢
    rw [this, ih]; rfl

theorem crcBits_append (s : W) (a b : List Bool) : crcBits s (a ++ b) = crcBits (crcBits s a) b := by
  simp [crcBits, List.foldl_append]

def xorBits (as bs : List Bool) : List Bool := List.zipWith xor as bs

theorem crcBits_xorBits (s : W) (xs es : List Bool) (h : xs.length = es.length) :
    crcBits s (xorBits xs es) = crcBits s xs ^^^ crcBits 0 es := by
  induction xs generalizing s es with
  | nil => cases es <;> simp_all [xorBits, crcBits]
  | cons x xs ih =>
    cases es with
    | nil => simp at h
    | cons e es =>
      have h : xs.length = es.length := by simpa using h
      have hb : crcBit s (x ^^ e) = crcBit s x ^^^ crcBit 0 e := by
        unfold crcBit
        rw [← mulx_xor]; congr 1
        cases x <;> cases e
        · simp
        · simp
        · simp
        · simp; rw [BitVec.xor_assoc]; simp  -- both bits set: the two top-bit masks cancel
      -- both the state's and the pattern's first bit travel through the remaining |xs| = |es| shifts
      have h2 := crcBits_xor es 0 (crcBit 0 e)
      rw [zero_xor] at h2
      show crcBits (crcBit s (x ^^ e)) (xorBits xs es) = crcBits (crcBit s x) xs ^^^ crcBits (crcBit 0 e) es
      rw [hb, ih _ _ h, crcBits_xor, h, h2]
      ac_rfl

theorem crcBits_state_zeros (s : W) (k : Nat) : crcBits s (List.replicate k false) = mulxN k s := by
  induction k generalizing s with
  | zero => simp [crcBits, mulxN]
  | succ k ih =>
    simp only [List.replicate_succ, crcBits, List.foldl_cons, mulxN] at ih ⊢
    have : crcBit s false = mulx s := by simp [crcBit]
    rw [this]; exact ih _

theorem crcBits_falses (k : Nat) : crcBits 0 (List.replicate k false) = 0 := by
  rw [crcBits_state_zeros, mulxN_zero]

theorem crcBits_zeros (k : Nat) (rest : List Bool) :
    crcBits 0 (List.replicate k false ++ rest) = crcBits 0 rest := by
  rw [crcBits_append, crcBits_falses]

/-- orbit check: `mulx^d t ≠ poly` for `1 ≤ d ≤ n` -/
def orbitOk : Nat → W → Bool
  | 0, _ => true
  | n+1, t => let t' := mulx t; (t' != poly) && orbitOk n t'

theorem orbitOk_spec (n : Nat) (t : W) (h : orbitOk n t = true) :
    ∀ d, 1 ≤ d → d ≤ n → mulxN d t ≠ poly := by
  induction n generalizing t with
  | zero => intro d h1 h2; omega
  | succ n ih =>
    intro d h1 h2
    simp only [orbitOk, Bool.and_eq_true, bne_iff_ne, ne_eq] at h
    obtain ⟨hne, hrest⟩ := h
    cases d with
    | zero => omega
    | succ d =>
      cases d with
      | zero => simpa [mulxN] using hne
      | succ d =>
        have := ih (mulx t) hrest (d + 1) (by omega) (by omega)
        simpa [mulxN] using this

/-- `mulx` on the register's value.  `Nat.ble` here and `Nat.beq` in `orbitEnd`, not `≤` and `=`: the
kernel reduces them in one step, where it would have to unfold the `Decidable` instances. -/
def mulxNat (t : Nat) : Nat := bif Nat.ble 0x8000 t then (2 * t % 65536) ^^^ 0x1021 else 2 * t

theorem mulxNat_eq (t : Nat) : mulxNat t = if 0x8000 ≤ t then (2 * t % 65536) ^^^ 0x1021 else 2 * t := by
  simp [mulxNat, cond_eq_ite]

theorem mulx_toNat (t : W) : (mulx t).toNat = mulxNat t.toNat := by
  rw [mulxNat_eq]
  unfold mulx poly
  rw [BitVec.msb_eq_decide]
  by_cases h : 2 ^ (16 - 1) ≤ t.toNat
  · simp only [h, decide_true, ↓reduceIte, BitVec.toNat_xor, BitVec.toNat_shiftLeft]
    simp [Nat.shiftLeft_eq, Nat.mul_comm]
  · simp only [h, decide_false, Bool.false_eq_true, ↓reduceIte, BitVec.toNat_shiftLeft]
    simp [Nat.shiftLeft_eq]; omega

theorem mulxN_small (k : Nat) (t : W) (h : t.toNat * 2 ^ k < 65536) :
    (mulxN k t).toNat = t.toNat * 2 ^ k := by
  induction k generalizing t with
  | zero => simp [mulxN]
  | succ k ih =>
    have e : t.toNat * 2 ^ (k + 1) = 2 * t.toNat * 2 ^ k := by rw [Nat.pow_succ]; ac_rfl
    rw [e] at h ⊢
    have := Nat.le_mul_of_pos_right (2 * t.toNat) (Nat.two_pow_pos k)
    have h1 : (mulx t).toNat = 2 * t.toNat := by rw [mulx_toNat, mulxNat_eq, if_neg (by omega)]
    rw [mulxN, ih _ (by rw [h1]; exact h), h1]

/-- `orbitOk` and `mulxN` in one pass (`none`: `poly` was met), on register values because the kernel
evaluates `Nat` arithmetic natively and `BitVec 16` only by unfolding it. -/
def orbitEnd : Nat → Nat → Option Nat
  | 0, t => some t
  | n+1, t => bif Nat.beq (mulxNat t) 0x1021 then none else orbitEnd n (mulxNat t)

theorem orbitEnd_spec {n : Nat} {t : W} {u : Nat} (h : orbitEnd n t.toNat = some u) :
    orbitOk n t = true ∧ (mulxN n t).toNat = u := by
  induction n generalizing t with
  | zero => exact ⟨rfl, by simpa [orbitEnd, mulxN] using h⟩
  | succ n ih =>
    rw [orbitEnd, ← mulx_toNat] at h
    cases hb : Nat.beq (mulx t).toNat 0x1021 with
    | true => simp [hb] at h
    | false =>
      have hp : mulx t ≠ poly := fun e => by rw [e] at hb; cases hb
      obtain ⟨h1, h2⟩ := ih (by simpa [hb] using h)
      exact ⟨by simp [orbitOk, hp, h1], h2⟩

theorem orbitEnd_poly : orbitEnd 32766 0x1021 = some 0x8000 := by decide +kernel

theorem orbit_32766 : orbitOk 32766 poly = true := (orbitEnd_spec (t := poly) orbitEnd_poly).1

/-- sanity: the period of x modulo the polynomial is 32 767, so the check fails one step later -/
theorem orbit_32767 : orbitOk 32767 poly = false := by
  have h : mulxN 32767 poly = poly := by
    rw [mulxN_succ', show mulxN 32766 poly = 0x8000#16 from
      BitVec.eq_of_toNat_eq (orbitEnd_spec (t := poly) orbitEnd_poly).2]
    decide
  cases e : orbitOk 32767 poly with
  | false => rfl
  | true => exact absurd h (orbitOk_spec _ _ e 32767 (by omega) (by omega))

theorem poly_orbit (d : Nat) (h1 : 1 ≤ d) (h2 : d ≤ 32766) : mulxN d poly ≠ poly :=
  orbitOk_spec 32766 poly orbit_32766 d h1 h2

theorem mulxN_ne_zero {n : Nat} {t : W} (h : t ≠ 0) : mulxN n t ≠ 0 :=
  fun e => h (mulxN_inj n _ _ (e.trans (mulxN_zero n).symm))

theorem crcBits_true (rest : List Bool) :
    crcBits 0 (true :: rest) = crcBits 0 rest ^^^ mulxN rest.length poly := by
  rw [← crcBits_xor, zero_xor]; rfl

theorem crc_one_bit (a b : Nat) :
    crcBits 0 (List.replicate a false ++ true :: List.replicate b false) ≠ 0 := by
  rw [crcBits_zeros, crcBits_true, crcBits_falses, zero_xor]
  exact mulxN_ne_zero (by decide)

theorem crc_two_bits (a d b : Nat) (hd : d + 1 ≤ 32766) :
    crcBits 0 (List.replicate a false ++ true :: (List.replicate d false ++ true :: List.replicate b false)) ≠ 0 := by
  rw [crcBits_zeros, crcBits_true, crcBits_zeros, crcBits_true, crcBits_falses, zero_xor]
  -- x^b · poly + x^(d+1+b) · poly = x^b · (poly + x^(d+1) · poly)
  have : (List.replicate d false ++ true :: List.replicate b false).length = (d + 1) + b := by simp; omega
  rw [this, mulxN_add, List.length_replicate, ← mulxN_xor]
  exact mulxN_ne_zero fun h => poly_orbit (d + 1) (by omega) hd (BitVec.xor_eq_zero_iff.mp h).symm

end BV.Ash
