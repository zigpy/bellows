/-
The implementation-shaped parser and unstuffer agree with the specification's on every byte string.
-/
import BV.Proofs.Ash.FrameLemmas
import BV.Spec.AshDecoder
namespace BV.Ash
open BV.Gen.Ash BV.Spec.Ash

theorem crcBytes_spec (body : List UInt8) :
    crcBytes (crc body) = [UInt8.ofNat (crc16 body / 256), UInt8.ofNat (crc16 body % 256)] := by
  simp [crcBytes, crc_toNat]

theorem randomize_spec (l : List UInt8) : randomize l = specRandomize l := by
  simp [randomize, specRandomize, pseudoRandom_eq]

/-- RSTACK and ERROR share their field decoder: exactly two bytes, the first the version 2 -/
theorem rstackFields_spec (r : List UInt8) (mk : UInt8 → UInt8 → Frame) :
    ((rstackFields r).map fun (v, code) => mk v code).toOption =
      match r with
      | [v, code] => if v = 2 then some (mk v code) else none
      | _ => none := by
  unfold rstackFields
  match r with
  | [] | [_] | _ :: _ :: _ :: _ => rfl
  | [v, code] => by_cases hv : v = 2 <;> simp [hv, Except.toOption, Except.map]

theorem parse_short (d : List UInt8) (h : d.length < 3) : (parse d).toOption = none := by
  unfold parse
  split
  · rfl
  · split
    · rfl
    · simp only [unwrap, h, ↓reduceIte]; rfl

/-- `parse_frame` accepts exactly what the specification's decoder accepts, with the same result -/
theorem parse_spec (d : List UInt8) : (parse d).toOption = specParse d := by
  by_cases hlen : d.length < 3
  · rw [parse_short d hlen]; simp [specParse, hlen]
  · cases d with
    | nil => simp at hlen
    | cons c0 tl =>
      have htl : 2 ≤ tl.length := by simp at hlen; omega
      obtain ⟨k, hk⟩ : ∃ k, tl.length = k + 2 := ⟨tl.length - 2, by omega⟩
      have hl2 : (c0 :: tl).length - 2 = k + 1 := by simp [hk]
      have hbody : (c0 :: tl).take (k + 1) = c0 :: tl.take k := by simp
      unfold parse specParse
      simp only [hlen, ↓reduceIte, unwrap, hl2, hbody, crcBytes_spec, classify_spec c0]
      generalize [UInt8.ofNat (crc16 (c0 :: List.take k tl) / 256), UInt8.ofNat (crc16 (c0 :: List.take k tl) % 256)] = cv
      generalize List.drop (k + 1) (c0 :: tl) = dv
      obtain ⟨f1, f2, f3, f4⟩ := fields_spec c0
      by_cases hcrc : dv = cv
      · subst hcrc
        simp only [bne_self_eq_false, Bool.false_eq_true, ↓reduceIte, ne_eq, not_true_eq_false]
        cases hc : specClass c0.toNat with
        | none => rfl
        | some cls =>
          cases cls with
          | data =>
            simp only [pseudoRandom_length, f1, f2, f3, randomize_spec, List.length_take, gt_iff_lt]
            by_cases hl : 256 < min k tl.length <;> simp only [hl, ↓reduceIte, Except.toOption]
          | ack => simp [Except.toOption, f2, f3, f4]
          | nak => simp [Except.toOption, f2, f3, f4]
          | rst =>
            dsimp only
            cases List.take k tl <;> simp [Except.toOption]
          | rstack => exact rstackFields_spec _ _
          | error => exact rstackFields_spec _ _
      · have hne : (cv != dv) = true := by
          simp only [bne_iff_ne, ne_eq]; intro h; exact hcrc h.symm
        simp only [hne, hcrc, ↓reduceIte, ne_eq, not_false_eq_true]
        cases specClass c0.toNat <;> rfl

theorem specUnstuff_ne (c : UInt8) (rest : List UInt8) (hc : c ≠ 0x7D) :
    specUnstuff (c :: rest) = (specUnstuff rest).map (c :: ·) := by
  -- the equation of the catch-all clause holds where the two `0x7D` clauses before it do not match
  rw [specUnstuff]
  · intro h; exact absurd h hc
  · intro c' rest' h; exact absurd h hc

theorem unstuff_spec (l : List UInt8) : unstuff l = specUnstuff l := by
  unfold unstuff
  induction l using specUnstuff.induct with
  | case1 => rfl
  | case2 => simp [unstuffAux, specUnstuff, resEscape]
  | case3 c rest b hb ih =>
    simp only [unstuffAux, specUnstuff, resEscape, beq_self_eq_true, ↓reduceIte, flip5_eq, specReserved_eq, ih]
  | case4 c rest b hb =>
    simp only [unstuffAux, specUnstuff, resEscape, beq_self_eq_true, ↓reduceIte, flip5_eq, specReserved_eq]
    rw [show isReserved (c ^^^ 0x20) = false by rw [← flip5_eq, ← specReserved_eq]; exact Bool.eq_false_iff.mpr hb]
    simp
  | case5 c rest h1 h2 ih =>
    have hc : c ≠ 0x7D := fun e => by
      cases rest with
      | nil => exact h1 e rfl
      | cons c' r' => exact h2 c' r' e rfl
    have hne : (c == resEscape) = false := by simp [resEscape, hc]
    rw [specUnstuff_ne c rest hc, unstuffAux, hne, ih]
    simp

end BV.Ash
