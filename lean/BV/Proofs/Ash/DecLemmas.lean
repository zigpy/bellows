/-
The buffer-scanning loop of `data_received` computes exactly the per-byte reference automaton.
-/
import BV.Model.Ash.Decoder
import BV.Spec.AshDecoder
namespace BV.Ash
open BV.Gen.Ash BV.Spec.Ash

def NoRwe (l : List UInt8) : Prop := ∀ b ∈ l, isReservedNoEsc b = false

/-- in this order: XON, XOFF, SUBSTITUTE, CANCEL, FLAG -/
theorem rwe_iff (b : UInt8) : isReservedNoEsc b = true ↔ (b = 0x11 ∨ b = 0x13 ∨ b = 0x18 ∨ b = 0x1A ∨ b = 0x7E) := by
  simp [isReservedNoEsc, reservedWithoutEscape]

theorem stepByte_norwe (acc : List UInt8) (b : UInt8) (h : isReservedNoEsc b = false) :
    stepByte ⟨acc, false⟩ b = (⟨acc ++ [b], false⟩, []) := by
  have h' : ¬ (b = 17 ∨ b = 19 ∨ b = 24 ∨ b = 26 ∨ b = 126) := by
    rw [← rwe_iff]; simp [h]
  simp only [not_or] at h'
  obtain ⟨h1, h2, h3, h4, h5⟩ := h'
  simp [stepByte, h1, h2, h3, h4, h5]

theorem run_norwe (acc bs : List UInt8) (h : NoRwe bs) :
    runBytes ⟨acc, false⟩ bs = (⟨acc ++ bs, false⟩, []) := by
  induction bs generalizing acc with
  | nil => simp [runBytes]
  | cons b bs ih =>
    obtain ⟨hb, hbs⟩ := List.forall_mem_cons.mp h
    simp [runBytes, stepByte_norwe acc b hb, ih (acc ++ [b]) hbs]

theorem run_append (s : Acc) (a b : List UInt8) :
    runBytes s (a ++ b) = ((runBytes (runBytes s a).1 b).1, (runBytes s a).2 ++ (runBytes (runBytes s a).1 b).2) := by
  induction a generalizing s with
  | nil => simp [runBytes]
  | cons x xs ih =>
    simp only [List.cons_append, runBytes]
    rw [ih]
    simp [List.append_assoc]

theorem onSegments_append (s : Rx) (a b : List (List UInt8)) :
    onSegments s (a ++ b) =
      ((onSegments (onSegments s a).1 b).1, (onSegments s a).2 ++ (onSegments (onSegments s a).1 b).2) := by
  induction a generalizing s with
  | nil => simp [onSegments]
  | cons x xs ih => simp only [List.cons_append, onSegments]; rw [ih]; simp [List.append_assoc]

theorem splitRwe_none {l : List UInt8} (h : splitRwe l = none) : NoRwe l := by
  induction l with
  | nil => intro b hb; simp at hb
  | cons x xs ih =>
    unfold splitRwe at h
    split at h
    · simp at h
    · rename_i hx
      split at h
      · rename_i hs
        exact List.forall_mem_cons.mpr ⟨by simpa using hx, ih hs⟩
      · simp at h

theorem splitRwe_some {l pre rest : List UInt8} {b : UInt8} (h : splitRwe l = some (pre, b, rest)) :
    l = pre ++ b :: rest ∧ NoRwe pre ∧ isReservedNoEsc b = true := by
  induction l generalizing pre with
  | nil => simp [splitRwe] at h
  | cons x xs ih =>
    unfold splitRwe at h
    split at h
    · rename_i hx
      simp at h
      obtain ⟨rfl, rfl, rfl⟩ := h
      exact ⟨by simp, by intro b hb; simp at hb, hx⟩
    · rename_i hx
      split at h
      · simp at h
      · rename_i p y r hs
        simp at h
        obtain ⟨rfl, rfl, rfl⟩ := h
        obtain ⟨h1, h2, h3⟩ := ih hs
        exact ⟨by simp [h1], List.forall_mem_cons.mpr ⟨by simpa using hx, h2⟩, h3⟩

theorem splitRwe_append {acc : List UInt8} (l : List UInt8) (h : NoRwe acc) :
    splitRwe (acc ++ l) = (splitRwe l).map (fun t => (acc ++ t.1, t.2.1, t.2.2)) := by
  induction acc with
  | nil => cases hs : splitRwe l <;> simp [hs]
  | cons x xs ih =>
    obtain ⟨hx, hxs⟩ := List.forall_mem_cons.mp h
    simp only [List.cons_append]
    rw [splitRwe]
    simp only [hx, Bool.false_eq_true, ↓reduceIte]
    rw [ih hxs]
    cases hs : splitRwe l <;> simp

theorem afterFlag_none {l : List UInt8} (h : afterFlag l = none) :
    runBytes ⟨[], true⟩ l = (⟨[], true⟩, []) := by
  induction l with
  | nil => simp [runBytes]
  | cons x xs ih =>
    unfold afterFlag at h
    split at h
    · simp at h
    · rename_i hx
      have : ¬ x = 0x7E := by simpa [resFlag] using hx
      simp [runBytes, stepByte, this, ih h]

theorem afterFlag_some {l q : List UInt8} (h : afterFlag l = some q) :
    runBytes ⟨[], true⟩ l = runBytes ⟨[], false⟩ q := by
  induction l with
  | nil => simp [afterFlag] at h
  | cons x xs ih =>
    unfold afterFlag at h
    split at h
    · rename_i hx
      have : x = 0x7E := by simpa [resFlag] using hx
      simp at h; subst h
      simp [runBytes, stepByte, this]
    · rename_i hx
      have : ¬ x = 0x7E := by simpa [resFlag] using hx
      simp [runBytes, stepByte, this, ih h]

theorem afterFlag_length {l q : List UInt8} (h : afterFlag l = some q) : q.length < l.length := by
  induction l with
  | nil => simp [afterFlag] at h
  | cons x xs ih =>
    unfold afterFlag at h
    split at h
    · simp at h; subst h; simp
    · have := ih h; simp; omega

/-- one round of the `while self._buffer:` loop: stop with this remainder, or go on, possibly with one
extracted segment -/
inductive Round
  | stop (buf : List UInt8) (disc : Bool)
  | go (buf : List UInt8) (disc : Bool) (seg : Option (List UInt8))

/-- the part of a round after the discarding prelude: the first reserved byte decides -/
def bodyOf (q : List UInt8) : Round :=
  match splitRwe q with
  | none => .stop q false
  | some (pre, x, rest) =>
    if x == resFlag then .go rest false (if pre.isEmpty then none else some pre)
    else if x == resCancel then .go rest false none
    else if x == resSubstitute then .go rest true none
    else .go (pre ++ rest) false none

def roundOf (b : List UInt8) (d : Bool) : Round :=
  if b.isEmpty then .stop b d else
  match (if d then afterFlag b else some b) with
  | none => .stop [] true
  | some q => bodyOf q

/-- what a loop that proceeds by rounds returns, given what it returns from the next round on -/
def Round.result (r : Round) (next : List UInt8 → Bool → List UInt8 × Bool × List (List UInt8)) :
    List UInt8 × Bool × List (List UInt8) :=
  match r with
  | .stop b d => (b, d, [])
  | .go b d seg => ((next b d).1, (next b d).2.1, seg.toList ++ (next b d).2.2)

theorem roundOf_false (b : List UInt8) : roundOf b false = bodyOf b := by
  cases b with
  | nil => rfl
  | cons x xs => rfl

theorem roundOf_disc {b q : List UInt8} (hb : b ≠ []) (h : afterFlag b = some q) : roundOf b true = bodyOf q := by
  have hbe : b.isEmpty = false := by simpa using hb
  simp only [roundOf, hbe, Bool.false_eq_true, ↓reduceIte, h]

theorem scanBody_round (n : Nat) (q : List UInt8) : scanBody n q = (bodyOf q).result (scan n) := by
  rw [scanBody, bodyOf]
  cases splitRwe q with
  | none => rfl
  | some p =>
    obtain ⟨pre, x, rest⟩ := p
    simp only
    split
    · split <;> simp [Round.result]
    · split
      · rfl
      · split <;> rfl

theorem scan_round (n : Nat) (b : List UInt8) (d : Bool) : scan (n + 1) b d = (roundOf b d).result (scan n) := by
  rw [scan, roundOf]
  split
  · rfl
  · cases d with
    | false => exact scanBody_round n b
    | true =>
      simp only [↓reduceIte]
      cases afterFlag b with
      | none => rfl
      | some q => exact scanBody_round n q

theorem bodyOf_go_lt {q b' : List UInt8} {d' : Bool} {seg : Option (List UInt8)} (h : bodyOf q = .go b' d' seg) :
    b'.length < q.length := by
  unfold bodyOf at h
  cases hs : splitRwe q with
  | none => rw [hs] at h; cases h
  | some p =>
    obtain ⟨pre, x, rest⟩ := p
    obtain ⟨rfl, -, -⟩ := splitRwe_some hs
    have : b' = rest ∨ b' = pre ++ rest := by
      rw [hs] at h
      simp only at h
      split at h
      · cases h; exact .inl rfl
      · split at h
        · cases h; exact .inl rfl
        · split at h
          · cases h; exact .inl rfl
          · cases h; exact .inr rfl
    rcases this with rfl | rfl <;> simp <;> omega

theorem roundOf_go_lt {b b' : List UInt8} {d d' : Bool} {seg : Option (List UInt8)}
    (h : roundOf b d = .go b' d' seg) : b'.length < b.length := by
  have hb : b ≠ [] := fun e => by simp [e, roundOf] at h
  cases d with
  | false => exact bodyOf_go_lt (roundOf_false b ▸ h)
  | true =>
    cases haf : afterFlag b with
    | none => simp [roundOf, hb, haf] at h
    | some q => exact Nat.lt_trans (bodyOf_go_lt (roundOf_disc hb haf ▸ h)) (afterFlag_length haf)

def out (r : Acc × List (List UInt8)) : List UInt8 × Bool × List (List UInt8) := (r.1.acc, r.1.disc, r.2)

/-- the reference automaton started on a remainder `acc` that the loop has already searched -/
theorem run_prefix {acc : List UInt8} (bytes : List UInt8) {d : Bool} (hacc : NoRwe acc) (hd : d = true → acc = []) :
    runBytes ⟨[], d⟩ (acc ++ bytes) = runBytes ⟨acc, d⟩ bytes := by
  cases d with
  | true => rw [hd rfl]; rfl
  | false => rw [run_append, run_norwe [] acc hacc]; simp

theorem run_round (b : List UInt8) (d : Bool) :
    out (runBytes ⟨[], d⟩ b) = (roundOf b d).result fun b' d' => out (runBytes ⟨[], d'⟩ b') := by
  by_cases hb : b = []
  · subst hb; rfl
  cases d with
  | true =>
    cases haf : afterFlag b with
    | none => simp [roundOf, hb, haf, afterFlag_none haf, out, Round.result]
    | some q => rw [roundOf_disc hb haf, afterFlag_some haf, ← roundOf_false]; exact run_round q false
  | false =>
    rw [roundOf_false, bodyOf]
    cases hs : splitRwe b with
    | none => simp [run_norwe [] b (splitRwe_none hs), out, Round.result]
    | some p =>
      obtain ⟨pre, x, rest⟩ := p
      obtain ⟨rfl, hpre, hrwe⟩ := splitRwe_some hs
      -- up to the boundary byte the automaton only collects; XON / XOFF leave `pre` in place
      have hrun : runBytes ⟨[], false⟩ (pre ++ x :: rest) =
          ((runBytes (stepByte ⟨pre, false⟩ x).1 rest).1,
           (stepByte ⟨pre, false⟩ x).2 ++ (runBytes (stepByte ⟨pre, false⟩ x).1 rest).2) := by
        rw [run_append, run_norwe [] pre hpre]; simp [runBytes]
      have hkeep := run_prefix rest hpre (d := false) (by simp)
      rcases (rwe_iff x).mp hrwe with rfl | rfl | rfl | rfl | rfl
      · simp [resFlag, resCancel, resSubstitute, hrun, ← hkeep, stepByte, out, Round.result]    -- XON
      · simp [resFlag, resCancel, resSubstitute, hrun, ← hkeep, stepByte, out, Round.result]    -- XOFF
      · simp [resFlag, resCancel, resSubstitute, hrun, stepByte, out, Round.result]             -- SUBSTITUTE
      · simp [resFlag, resCancel, hrun, stepByte, out, Round.result]                            -- CANCEL
      · simp [resFlag, hrun, stepByte, out, Round.result]                                       -- FLAG
        split <;> rfl   -- what is left: both sides skip an empty segment
-- the discarding case calls the other one, on what follows the FLAG
termination_by (if d then 1 else 0 : Nat)

theorem scan_eq_run (n : Nat) (b : List UInt8) (d : Bool) (h : b.length < n) :
    scan n b d = out (runBytes ⟨[], d⟩ b) := by
  induction n generalizing b d with
  | zero => omega
  | succ n ih =>
    rw [scan_round, run_round]
    cases hr : roundOf b d with
    | stop b' d' => rfl
    | go b' d' seg =>
      have := roundOf_go_lt hr
      simp only [Round.result, ih b' d' (by omega)]

theorem scan_fuel (n m : Nat) (b : List UInt8) (d : Bool) (hn : b.length < n) (hm : b.length < m) :
    scan n b d = scan m b d := by
  rw [scan_eq_run n b d hn, scan_eq_run m b d hm]

theorem scan_refines (acc bytes : List UInt8) (d : Bool) (hacc : NoRwe acc) (hd : d = true → acc = []) :
    scan ((acc ++ bytes).length + 1) (acc ++ bytes) d = out (runBytes ⟨acc, d⟩ bytes) := by
  rw [scan_eq_run _ _ _ (Nat.lt_succ_self _), run_prefix bytes hacc hd]

theorem stepByte_residue (a : Acc) (b : UInt8) (h1 : NoRwe a.acc) :
    NoRwe (stepByte a b).1.acc ∧ ((stepByte a b).1.disc = true → (stepByte a b).1.acc = []) := by
  obtain ⟨acc, d⟩ := a
  cases d with
  | true => simp only [stepByte, ↓reduceIte]; split <;> simp [NoRwe]
  | false =>
    cases hr : isReservedNoEsc b with
    | false =>
      rw [stepByte_norwe acc b hr]
      exact ⟨fun x hx => (List.mem_append.mp hx).elim (h1 x) fun hx => List.mem_singleton.mp hx ▸ hr, by simp⟩
    | true =>
      -- XON and XOFF leave the residue as it is; the other three empty it
      rcases (rwe_iff b).mp hr with rfl | rfl | rfl | rfl | rfl
      · simpa [stepByte] using h1
      · simpa [stepByte] using h1
      · simp [stepByte, NoRwe]
      · simp [stepByte, NoRwe]
      · simp [stepByte, NoRwe]

theorem run_residue (a : Acc) (bs : List UInt8) (h1 : NoRwe a.acc) (h2 : a.disc = true → a.acc = []) :
    NoRwe (runBytes a bs).1.acc ∧ ((runBytes a bs).1.disc = true → (runBytes a bs).1.acc = []) := by
  induction bs generalizing a with
  | nil => exact ⟨h1, h2⟩
  | cons b bs ih => exact ih _ (stepByte_residue a b h1).1 (stepByte_residue a b h1).2

end BV.Ash
