/-
The ASH link, one direction at a time, as labelled transition systems with ghost absolute frame indices
(the wire carries only 3-bit residues, and every test is on those).  Channels are FIFO lists; what the line
or a delivery does to one is `Thin`, and the invariants need no more of it than that it keeps order and
invents nothing.  `N2H` (window W ≤ 7) carries the induction; `H2N` is its W = 1 instance through `sim`.
-/
import BV.Proofs.Keyed
namespace BV.Link
variable {α : Type} {R : α → α → Prop}

/-- what the line, or a delivery, does to a FIFO channel: one element goes, or is repeated in place -/
inductive Thin : List α → List α → Prop
  | drop (xs x ys) : Thin (xs ++ x :: ys) (xs ++ ys)
  | dup (xs x ys) : Thin (xs ++ x :: ys) (xs ++ x :: x :: ys)

theorem Thin.tail (x : α) (xs : List α) : Thin (x :: xs) xs := .drop [] x xs

theorem Thin.mem {l l' : List α} (h : Thin l l') {x} (hx : x ∈ l') : x ∈ l := by
  cases h <;> simp only [List.mem_append, List.mem_cons] at hx ⊢
  · rcases hx with h | h <;> simp [h]
  · rcases hx with h | h | h | h <;> simp [h]

theorem Thin.pairwise (hr : ∀ x, R x x) {l l' : List α} (h : Thin l l') (hp : l.Pairwise R) : l'.Pairwise R := by
  cases h with
  | drop xs x ys => exact hp.sublist ((List.sublist_cons_self x ys).append_left xs)
  | dup xs x ys =>
    rw [List.pairwise_append] at hp ⊢
    obtain ⟨h1, h2, h3⟩ := hp
    refine ⟨h1, List.pairwise_cons.mpr ⟨fun b hb => ?_, h2⟩, fun a ha b hb => h3 a ha b ?_⟩
    · rcases List.mem_cons.mp hb with rfl | hb
      · exact hr _
      · exact (List.pairwise_cons.mp h2).1 b hb
    · rcases List.mem_cons.mp hb with rfl | hb
      · exact List.mem_cons_self
      · exact hb

theorem forall_mem_snoc {P : α → Prop} {l : List α} {a} (h : ∀ x ∈ l, P x) (ha : P a) : ∀ x ∈ l ++ [a], P x :=
  fun x hx => (List.mem_append.mp hx).elim (h x) fun hx => List.mem_singleton.mp hx ▸ ha

end BV.Link

/-
Host → NCP direction.  Sender = the host (window TX_K = 1: frame `base` is outstanding iff `pending`;
it may be retransmitted at any time — NAK, timeout or stall — and the sender may also stop for good:
failure, cancellation of callers).  Receiver = the NCP of the specification (accepts iff frmNum =
expected, i.e. idx % 8 = r % 8; every reply carries the number expected next).  Faults: drop and
duplication anywhere, corruption of the frame being delivered (discarded and answered with a NAK), and
the receiver may emit its current expected number at any time (piggy-backed acks, NAKs, ACKs to
retransmissions).
-/
namespace BV.Link.H2N

structure St where
  base : Nat          -- frames acknowledged so far = index of the current frame
  pending : Bool      -- frame `base` transmitted, not yet acknowledged
  r : Nat             -- receiver: next expected (absolute)
  d : List Nat        -- data channel (absolute index; wire carries idx % 8)
  a : List Nat        -- ack channel (absolute ackNum; wire carries A % 8)
  up : List Nat       -- delivered upward (absolute indices)

def init : St := ⟨0, false, 0, [], [], []⟩

inductive Step : St → St → Prop
  | sendNew (s) (h : s.pending = false) :
      Step s { s with pending := true, d := s.d ++ [s.base] }
  | retx (s) (h : s.pending = true) :
      Step s { s with d := s.d ++ [s.base] }
  | rxAccept (s j ds) (hd : s.d = j :: ds) (h : j % 8 = s.r % 8) :
      Step s { s with d := ds, r := s.r + 1, up := s.up ++ [j], a := s.a ++ [s.r + 1] }
  | rxReject (s j ds) (hd : s.d = j :: ds) (h : j % 8 ≠ s.r % 8) :
      Step s { s with d := ds, a := s.a ++ [s.r] }
  | garbleD (s j ds) (hd : s.d = j :: ds) : Step s { s with d := ds, a := s.a ++ [s.r] }
  | spontAck (s) : Step s { s with a := s.a ++ [s.r] }
  | dropD (s xs j ys) (hd : s.d = xs ++ j :: ys) : Step s { s with d := xs ++ ys }
  | dupD (s xs j ys) (hd : s.d = xs ++ j :: ys) : Step s { s with d := xs ++ j :: j :: ys }
  | ackHit (s A as) (ha : s.a = A :: as) (hp : s.pending = true) (h : (A + 7) % 8 = s.base % 8) :
      Step s { s with a := as, pending := false, base := s.base + 1 }
  | ackMiss (s A as) (ha : s.a = A :: as) (h : ¬ (s.pending = true ∧ (A + 7) % 8 = s.base % 8)) :
      Step s { s with a := as }
  | dropA (s xs A ys) (ha : s.a = xs ++ A :: ys) : Step s { s with a := xs ++ ys }
  | dupA (s xs A ys) (ha : s.a = xs ++ A :: ys) : Step s { s with a := xs ++ A :: A :: ys }

inductive Reach : St → Prop
  | init : Reach init
  | step {s t} : Reach s → Step s t → Reach t

def Sorted (l : List Nat) : Prop := l.Pairwise (· ≤ ·)

structure Inv (s : St) : Prop where
  dSorted : Sorted s.d
  dHi : ∀ j ∈ s.d, j ≤ s.base ∧ (s.pending = false → j < s.base)
  dLo : ∀ j ∈ s.d, s.r ≤ j + 1
  rLo : s.base ≤ s.r
  rHi : s.r ≤ s.base + 1
  rIdle : s.pending = false → s.r = s.base
  aSorted : Sorted s.a
  aRange : ∀ A ∈ s.a, s.base ≤ A ∧ A ≤ s.r
  upEq : s.up = List.range s.r

end BV.Link.H2N

/-
NCP → host direction.  Sender = the NCP of the specification with window W (at most 3 there; the
invariant holds up to W = 7): frames a..n-1 are unacknowledged, n ≤ a + W; any of them may be
retransmitted at any time (go-back-N is a special case); an ackNum advances `a` by its 3-bit distance
when that lies inside the window.  Receiver = the host (`data_frame_received`: accepts iff frmNum =
rx_seq, i.e. idx % 8 = r % 8; every ACK/NAK carries the new rx_seq).  Wire frames are tagged (ghost)
with the sender's `n` at transmission.  Same faults as H2N.
-/
namespace BV.Link.N2H

structure St where
  a : Nat
  n : Nat
  r : Nat
  d : List (Nat × Nat)   -- (absolute index, sender's `n` when transmitted)
  k : List Nat           -- ack channel, absolute ackNum
  up : List Nat

def init : St := ⟨0, 0, 0, [], [], []⟩

def ackDelta (A a : Nat) : Nat := (A % 8 + 8 - a % 8) % 8

inductive Step (W : Nat) : St → St → Prop
  | sendNew (s) (h : s.n < s.a + W) : Step W s { s with d := s.d ++ [(s.n, s.n + 1)], n := s.n + 1 }
  | retx (s j) (h1 : s.a ≤ j) (h2 : j < s.n) : Step W s { s with d := s.d ++ [(j, s.n)] }
  | rxAccept (s j hi ds) (hd : s.d = (j, hi) :: ds) (h : j % 8 = s.r % 8) :
      Step W s { s with d := ds, r := s.r + 1, up := s.up ++ [j], k := s.k ++ [s.r + 1] }
  | rxReject (s j hi ds) (hd : s.d = (j, hi) :: ds) (h : j % 8 ≠ s.r % 8) :
      Step W s { s with d := ds, k := s.k ++ [s.r] }
  | garbleD (s x ds) (hd : s.d = x :: ds) : Step W s { s with d := ds, k := s.k ++ [s.r] }
  | spontAck (s) : Step W s { s with k := s.k ++ [s.r] }
  | dropD (s xs x ys) (hd : s.d = xs ++ x :: ys) : Step W s { s with d := xs ++ ys }
  | dupD (s xs x ys) (hd : s.d = xs ++ x :: ys) : Step W s { s with d := xs ++ x :: x :: ys }
  | ackIn (s A ks) (hk : s.k = A :: ks) (h : ackDelta A s.a ≤ s.n - s.a) :
      Step W s { s with k := ks, a := s.a + ackDelta A s.a }
  | ackOut (s A ks) (hk : s.k = A :: ks) (h : ¬ ackDelta A s.a ≤ s.n - s.a) :
      Step W s { s with k := ks }
  | dropA (s xs A ys) (hk : s.k = xs ++ A :: ys) : Step W s { s with k := xs ++ ys }
  | dupA (s xs A ys) (hk : s.k = xs ++ A :: ys) : Step W s { s with k := xs ++ A :: A :: ys }

inductive Reach (W : Nat) : St → Prop
  | init : Reach W init
  | step {s t} : Reach W s → Step W s t → Reach W t

structure Inv (W : Nat) (s : St) : Prop where
  an1 : s.a ≤ s.n
  an2 : s.n ≤ s.a + W
  ar : s.a ≤ s.r
  rn : s.r ≤ s.n
  dSorted : s.d.Pairwise (fun x y => x.2 ≤ y.2)
  dEnt : ∀ x ∈ s.d, x.2 ≤ s.n ∧ x.1 < x.2 ∧ x.2 ≤ x.1 + W ∧ s.r ≤ x.2
  kSorted : s.k.Pairwise (· ≤ ·)
  kRange : ∀ A ∈ s.k, s.a ≤ A ∧ A ≤ s.r
  upEq : s.up = List.range s.r

theorem inv_init (W) : Inv W init := by
  constructor <;> simp [init]

theorem inv_d {W s d'} (hi : Inv W s) (h : Thin s.d d') : Inv W { s with d := d' } :=
  { hi with
    dSorted := h.pairwise (R := fun x y => x.2 ≤ y.2) (fun _ => Nat.le_refl _) hi.dSorted
    dEnt := fun x hx => hi.dEnt x (h.mem hx) }

theorem inv_k {W s k'} (hi : Inv W s) (h : Thin s.k k') : Inv W { s with k := k' } :=
  { hi with
    kSorted := h.pairwise Nat.le_refl hi.kSorted
    kRange := fun A hA => hi.kRange A (h.mem hA) }

theorem inv_ack {W s} (hi : Inv W s) : Inv W { s with k := s.k ++ [s.r] } :=
  { hi with
    kSorted := List.pairwise_snoc hi.kSorted fun y hy => (hi.kRange y hy).2
    kRange := forall_mem_snoc hi.kRange ⟨hi.ar, Nat.le_refl _⟩ }

theorem inv_step {W s t} (hW : W ≤ 7) (hi : Inv W s) (hs : Step W s t) : Inv W t := by
  have ⟨an1, an2, ar, rn, dS, dE, kS, kR, upE⟩ := hi
  cases hs with
  | sendNew h =>
    exact { hi with
      an1 := by simp only; omega
      an2 := by simp only; omega
      rn := by simp only; omega
      dSorted := List.pairwise_snoc dS fun y hy => by have := (dE y hy).1; simp only; omega
      dEnt := forall_mem_snoc (fun x hx => by have := dE x hx; simp only; omega) (by simp only; omega) }
  | retx j h1 h2 =>
    exact { hi with
      dSorted := List.pairwise_snoc dS fun y hy => (dE y hy).1
      dEnt := forall_mem_snoc dE (by simp only; omega) }
  | rxAccept j nj ds hd h =>
    -- a frame in flight was sent at most W before `n`, and `r` is within W of `n`: with W ≤ 7
    -- (modulus − 1, the go-back-N bound; the proof fails at 8) its residue identifies it
    have hx := dE (j, nj) (by rw [hd]; simp)
    have hjr : j = s.r := by simp only at hx; omega
    rw [hd] at dS
    exact { hi with
      ar := by simp only; omega
      rn := by simp only at hx ⊢; omega
      dSorted := (List.pairwise_cons.mp dS).2
      dEnt := fun x hx' => by
        have h1 := dE x (hd ▸ List.mem_cons_of_mem _ hx')
        have h2 := (List.pairwise_cons.mp dS).1 x hx'
        simp only at hx h2 ⊢; omega
      kSorted := List.pairwise_snoc kS fun y hy => by have := (kR y hy).2; omega
      kRange := forall_mem_snoc (fun A hA => by have := kR A hA; simp only; omega) (by simp only; omega)
      upEq := by simp only [upE, hjr, List.range_succ] }
  | rxReject j nj ds hd h => exact inv_ack (inv_d hi (hd ▸ Thin.tail (j, nj) ds))
  | garbleD x ds hd => exact inv_ack (inv_d hi (hd ▸ Thin.tail x ds))
  | spontAck => exact inv_ack hi
  | dropD xs x ys hd => exact inv_d hi (hd ▸ Thin.drop xs x ys)
  | dupD xs x ys hd => exact inv_d hi (hd ▸ Thin.dup xs x ys)
  | ackIn A ks hk h =>
    -- an ack in [a, r] ⊆ [a, a + 7] is recovered from its residue
    have hA := kR A (by rw [hk]; simp)
    have hδ : ackDelta A s.a = A - s.a := by unfold ackDelta; omega
    rw [hk] at kS
    exact { hi with
      an1 := by simp only [hδ]; omega
      an2 := by simp only [hδ]; omega
      ar := by simp only [hδ]; omega
      kSorted := (List.pairwise_cons.mp kS).2
      kRange := fun B hB => by
        have h1 := (List.pairwise_cons.mp kS).1 B hB
        have := kR B (hk ▸ List.mem_cons_of_mem _ hB); simp only [hδ]; omega }
  | ackOut A ks hk h => exact inv_k hi (hk ▸ Thin.tail A ks)
  | dropA xs A ys hk => exact inv_k hi (hk ▸ Thin.drop xs A ys)
  | dupA xs A ys hk => exact inv_k hi (hk ▸ Thin.dup xs A ys)

theorem inv {W s} (hW : W ≤ 7) (h : Reach W s) : Inv W s := by
  induction h with
  | init => exact inv_init W
  | step _ hs ih => exact inv_step hW ih hs

theorem exactly_once_W {W s} (hW : W ≤ 7) (h : Reach W s) :
    s.up = List.range s.r ∧ s.a ≤ s.r ∧ s.r ≤ s.n :=
  have hi := inv hW h
  ⟨hi.upEq, hi.ar, hi.rn⟩

end BV.Link.N2H

namespace BV.Link.H2N

def tag (j : Nat) : Nat × Nat := (j, j + 1)

/-- The host → NCP link is the NCP → host link with window 1: the window is `base` alone while
`pending`, and a frame on the wire was sent when the sender's `n` was its index + 1. -/
def sim (s : St) : N2H.St := ⟨s.base, s.base + s.pending.toNat, s.r, s.d.map tag, s.a, s.up⟩

theorem sim_step {s t} (h : Step s t) : N2H.Step 1 (sim s) (sim t) := by
  cases h with
  | sendNew h => simpa [sim, tag, h] using N2H.Step.sendNew (W := 1) (sim s) (by simp [sim, h])
  | retx h =>
    simpa [sim, tag, h] using N2H.Step.retx (W := 1) (sim s) s.base (by simp [sim]) (by simp [sim, h])
  | rxAccept j ds hd h =>
    simpa [sim, hd] using N2H.Step.rxAccept (W := 1) (sim s) j (j + 1) (ds.map tag) (by simp [sim, tag, hd]) h
  | rxReject j ds hd h =>
    simpa [sim, hd] using N2H.Step.rxReject (W := 1) (sim s) j (j + 1) (ds.map tag) (by simp [sim, tag, hd]) h
  | garbleD j ds hd =>
    simpa [sim, hd] using N2H.Step.garbleD (W := 1) (sim s) (tag j) (ds.map tag) (by simp [sim, hd])
  | spontAck => exact .spontAck (sim s)
  | dropD xs j ys hd =>
    simpa [sim, hd] using N2H.Step.dropD (W := 1) (sim s) (xs.map tag) (tag j) (ys.map tag) (by simp [sim, hd])
  | dupD xs j ys hd =>
    simpa [sim, hd] using N2H.Step.dupD (W := 1) (sim s) (xs.map tag) (tag j) (ys.map tag) (by simp [sim, hd])
  | ackHit A as ha hp h =>
    -- the ack that matches the outstanding frame is one ahead of `a`
    have e : N2H.ackDelta A s.base = 1 := by unfold N2H.ackDelta; omega
    simpa [sim, hp, e] using N2H.Step.ackIn (W := 1) (sim s) A as ha (by simp [sim, hp, e])
  | ackMiss A as ha h =>
    -- any other ack is outside the window, or (distance 0) moves nothing
    by_cases hδ : N2H.ackDelta A s.base ≤ s.pending.toNat
    · have e : N2H.ackDelta A s.base = 0 := by
        cases hp : s.pending <;> simp [hp, N2H.ackDelta] at h hδ ⊢ <;> omega
      simpa [sim, e] using N2H.Step.ackIn (W := 1) (sim s) A as ha (by simp [sim, e])
    · exact .ackOut (sim s) A as ha (by simpa [sim] using hδ)
  | dropA xs A ys ha => exact .dropA (sim s) xs A ys ha
  | dupA xs A ys ha => exact .dupA (sim s) xs A ys ha

theorem sim_reach {s} (h : Reach s) : N2H.Reach 1 (sim s) := by
  induction h with
  | init => exact .init
  | step _ hs ih => exact .step ih (sim_step hs)

theorem inv {s} (h : Reach s) : Inv s := by
  have ⟨an1, an2, ar, rn, dS, dE, kS, kR, upE⟩ := N2H.inv (by omega) (sim_reach h)
  have hE : ∀ j ∈ s.d, j + 1 ≤ s.base + s.pending.toNat ∧ s.r ≤ j + 1 := fun j hj => by
    have := dE (tag j) (List.mem_map_of_mem hj); simp only [sim, tag] at this; omega
  simp only [sim] at an1 an2 ar rn
  exact {
    dSorted := by simpa [sim, tag, List.pairwise_map, Sorted] using dS
    dHi := fun j hj => by have := hE j hj; cases hq : s.pending <;> simp [hq] at this ⊢ <;> omega
    dLo := fun j hj => (hE j hj).2
    rLo := ar
    rHi := by omega
    rIdle := fun hq => by simp [hq] at rn; omega
    aSorted := kS
    aRange := kR
    upEq := upE }

/-- every reachable state: delivered = 0,1,…,r-1 exactly once in order, and everything the
    sender believes acknowledged has been delivered -/
theorem exactly_once {s} (h : Reach s) : s.up = List.range s.r ∧ s.base ≤ s.r :=
  ⟨(inv h).upEq, (inv h).rLo⟩

end BV.Link.H2N
