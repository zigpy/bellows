/-
Byte-level consequences: a frame that passes the CRC check no longer passes it after one or
two bit errors anywhere in it (frames up to 4 095 bytes).
-/
import BV.Proofs.Ash.Crc
namespace BV.Ash

/-- the device behind every "all 256 bytes" statement: `apply forall_uint8; decide +kernel` turns a goal about a
byte into a bounded one the kernel evaluates -/
theorem forall_uint8 {P : UInt8 → Prop} (h : ∀ n, n < 256 → P (UInt8.ofNat n)) : ∀ c, P c := by
  intro c
  have := h c.toNat (by have := c.toNat_lt; omega)
  simpa using this

def hiByte (b : UInt8) : W := BitVec.ofNat 16 (b.toNat * 256)

theorem byteBits_length (b : UInt8) : (byteBits b).length = 8 := rfl

theorem crcBits_byte_zero : ∀ b : UInt8, crcBits 0 (byteBits b) = mulxN 8 (hiByte b) := by
  apply forall_uint8
  decide +kernel

theorem crcByte_eq (s : W) (b : UInt8) : crcByte s b = mulxN 8 (s ^^^ hiByte b) := by
  unfold crcByte
  have := crcBits_xor (byteBits b) 0 s
  rw [zero_xor] at this
  rw [this, byteBits_length, crcBits_byte_zero, mulxN_xor]
  ac_rfl

theorem crcFrom_bits (s : W) (bs : List UInt8) : crcFrom s bs = crcBits s (bitsOf bs) :=
  (List.foldl_flatMap (f := byteBits) (g := crcBit)).symm

theorem crcFrom_append (s : W) (a b : List UInt8) : crcFrom s (a ++ b) = crcFrom (crcFrom s a) b := by
  simp [crcFrom, List.foldl_append]

theorem xor_hi (t : Nat) : t ^^^ (t / 256 * 256) = t % 256 := by
  have h := Nat.div_add_mod (t ^^^ (t / 256 * 256)) (2 ^ 8)
  rw [Nat.xor_div_two_pow, Nat.xor_mod_two_pow] at h
  simp at h
  omega

/-- the first byte leaves the low byte in the register, eight shifts move it up unreduced, the second
byte cancels it -/
theorem crcFrom_self (t : W) : crcFrom t (crcBytes t) = 0 := by
  have e1 : t ^^^ hiByte (UInt8.ofNat (t.toNat / 256)) = BitVec.ofNat 16 (t.toNat % 256) := by
    apply BitVec.eq_of_toNat_eq
    have : (t.toNat / 256 % 256 * 256) % 65536 = t.toNat / 256 * 256 := by omega
    simp [hiByte, this, xor_hi]; omega
  have e2 : mulxN 8 (BitVec.ofNat 16 (t.toNat % 256)) = hiByte (UInt8.ofNat (t.toNat % 256)) := by
    apply BitVec.eq_of_toNat_eq
    rw [mulxN_small] <;> simp [hiByte] <;> omega
  simp only [crcFrom, crcBytes, List.foldl_cons, List.foldl_nil, crcByte_eq, e1, e2, BitVec.xor_self]
  exact mulxN_zero 8

/-- the acceptance test of `_unwrap` -/
def crcValid (d : List UInt8) : Prop :=
  3 ≤ d.length ∧ crcBytes (crc (d.take (d.length - 2))) = d.drop (d.length - 2)

theorem crcValid_zero {d : List UInt8} (h : crcValid d) : crcBits 0xFFFF (bitsOf d) = 0 := by
  obtain ⟨_, h2⟩ := h
  have hd : d = d.take (d.length - 2) ++ d.drop (d.length - 2) := (List.take_append_drop _ _).symm
  rw [← crcFrom_bits, hd, crcFrom_append, ← h2]
  exact crcFrom_self _

def xorBytes (d e : List UInt8) : List UInt8 := List.zipWith (· ^^^ ·) d e

theorem byteBits_xor : ∀ a b : UInt8, byteBits (a ^^^ b) = xorBits (byteBits a) (byteBits b) := by
  intro a b
  simp only [byteBits, xorBits, UInt8.toNat_xor, Nat.testBit_xor, List.zipWith_cons_cons, List.zipWith_nil_left]

theorem bitsOf_xor (d e : List UInt8) (h : d.length = e.length) :
    bitsOf (xorBytes d e) = xorBits (bitsOf d) (bitsOf e) := by
  induction d generalizing e with
  | nil => cases e <;> simp_all [xorBytes, bitsOf, xorBits]
  | cons x xs ih =>
    cases e with
    | nil => simp at h
    | cons y ys =>
      simp only [xorBytes, List.zipWith_cons_cons, bitsOf, List.flatMap_cons] at ih ⊢
      rw [xorBits, List.zipWith_append (by simp [byteBits_length]), byteBits_xor, ih _ (by simpa using h)]; rfl

theorem bitsOf_length (d : List UInt8) : (bitsOf d).length = 8 * d.length := by
  induction d with
  | nil => rfl
  | cons x xs ih => simp [bitsOf, byteBits_length] at ih ⊢; omega

/-- number of wrong bits in an error pattern -/
def weight (e : List UInt8) : Nat := (bitsOf e).count true

theorem count0 (l : List Bool) (h : l.count true = 0) : l = List.replicate l.length false :=
  List.eq_replicate_iff.mpr ⟨rfl, fun b hb => by
    cases b with
    | false => rfl
    | true => exact absurd hb (List.count_eq_zero.mp h)⟩

theorem count1 (l : List Bool) (h : l.count true = 1) :
    ∃ a b, l = List.replicate a false ++ true :: List.replicate b false := by
  induction l with
  | nil => simp at h
  | cons x xs ih =>
    cases x with
    | true =>
      simp at h
      exact ⟨0, xs.length, by simp; exact count0 xs h⟩
    | false =>
      simp at h
      obtain ⟨a, b, hab⟩ := ih h
      exact ⟨a + 1, b, by simp [List.replicate_succ, hab]⟩

theorem count2 (l : List Bool) (h : l.count true = 2) :
    ∃ a d b, l = List.replicate a false ++ true :: (List.replicate d false ++ true :: List.replicate b false) := by
  induction l with
  | nil => simp at h
  | cons x xs ih =>
    cases x with
    | true =>
      simp at h
      obtain ⟨d, b, hdb⟩ := count1 xs h
      exact ⟨0, d, b, by simp [hdb]⟩
    | false =>
      simp at h
      obtain ⟨a, d, b, hab⟩ := ih h
      exact ⟨a + 1, d, b, by simp [List.replicate_succ, hab]⟩

theorem syndrome_ne_zero (e : List UInt8) (hlen : e.length ≤ 4095)
    (hw : weight e = 1 ∨ weight e = 2) : crcBits 0 (bitsOf e) ≠ 0 := by
  have hbl := bitsOf_length e
  rcases hw with hw | hw
  · obtain ⟨a, b, hab⟩ := count1 _ hw
    rw [hab]; exact crc_one_bit a b
  · obtain ⟨a, d, b, hab⟩ := count2 _ hw
    rw [hab]
    -- 4 095 bytes: two of 8 · 4 095 bits are at most 32 759 apart, below the period 32 767 of x;
    -- with 4 096 bytes a pair 32 767 apart exists and cancels
    apply crc_two_bits
    have : (bitsOf e).length = a + (1 + (d + (1 + b))) := by rw [hab]; simp; omega
    omega

/-- **CRC-CCITT detects every 1- and 2-bit error** in every frame of at most 4 095 bytes -/
theorem crc_detects (d e : List UInt8) (hl : d.length = e.length) (hlen : d.length ≤ 4095)
    (hw : weight e = 1 ∨ weight e = 2) (hv : crcValid d) : ¬ crcValid (xorBytes d e) := by
  intro hv'
  have h1 := crcValid_zero hv
  have h2 := crcValid_zero hv'
  rw [bitsOf_xor d e hl, crcBits_xorBits _ _ _ (by simp [bitsOf_length, hl]), h1] at h2
  exact syndrome_ne_zero e (by omega) hw (by simpa using h2)

end BV.Ash
