/-
The ordered dict of `write_config` (`BV.Config.Dict`) under the standing assumption that keys do not repeat:
`popD` is core's `eraseP`, `set` replaces in place or appends, `moveLast` is pop-then-set.
-/
import BV.Model.Config
import BV.Proofs.Keyed
namespace BV.Config

def names (d : Dict) : List String := d.map (·.name)

@[simp] theorem names_nil : names [] = [] := rfl
@[simp] theorem names_cons (x : Cfg) (xs : Dict) : names (x :: xs) = x.name :: names xs := rfl

theorem mem_names_of_mem {d : Dict} {x : Cfg} (h : x ∈ d) : x.name ∈ names d :=
  List.mem_map_of_mem h

theorem set_names (d : Dict) (c : Cfg) :
    names (d.set c) = if c.name ∈ names d then names d else names d ++ [c.name] := by
  induction d with
  | nil => simp [Dict.set]
  | cons x xs ih =>
    unfold Dict.set
    by_cases h : x.name = c.name
    · simp [h]
    · have hne : ¬ (c.name = x.name) := fun e => h e.symm
      by_cases h2 : c.name ∈ names xs <;> simp [h, h2, ih, hne]

theorem mem_set {d : Dict} (hd : (names d).Nodup) (c x : Cfg) :
    x ∈ d.set c ↔ x = c ∨ (x ∈ d ∧ x.name ≠ c.name) := by
  induction d with
  | nil => simp [Dict.set]
  | cons y ys ih =>
    simp only [names_cons, List.nodup_cons] at hd
    unfold Dict.set
    by_cases hy : y.name = c.name
    · -- `y` is replaced, and no later entry has its key
      have hys : x ∈ ys → x.name ≠ c.name := fun hx e => hd.1 (hy ▸ e ▸ mem_names_of_mem hx)
      simp only [hy, if_true, List.mem_cons]
      grind
    · -- `y` stays, under another key than `c`'s; the tail is the induction hypothesis
      simp only [hy, if_false, List.mem_cons, ih hd.2]
      grind

theorem set_nodup {d : Dict} (hd : (names d).Nodup) (c : Cfg) : (names (d.set c)).Nodup := by
  rw [set_names]
  split
  · exact hd
  · exact List.nodup_snoc hd ‹_›

/-- `pop(k)` is core's `eraseP`; without the key it is Python's KeyError -/
theorem pop_eq (d : Dict) (k : String) :
    d.pop k = if k ∈ names d then some (d.eraseP (·.name == k)) else none := by
  induction d with
  | nil => rfl
  | cons y ys ih =>
    unfold Dict.pop
    by_cases hy : y.name = k
    · simp [hy]
    · have : ¬ k = y.name := fun e => hy e.symm
      rw [if_neg hy, ih, List.eraseP_cons_of_neg (by simpa using hy)]
      by_cases hk : k ∈ names ys <;> simp [hk, this]

/-- so `pop(k, None)` is `eraseP` outright (and on the keys `erase`: `names_popD`) -/
theorem popD_eq_eraseP (d : Dict) (k : String) : d.popD k = d.eraseP (·.name == k) := by
  rw [Dict.popD, pop_eq]
  split
  · rfl
  · next h =>
    have : ∀ x ∈ d, ¬ (x.name == k) = true := fun x hx => by
      simpa using fun e : x.name = k => h (e ▸ mem_names_of_mem hx)
    exact (List.eraseP_of_forall_not this).symm

theorem names_popD (d : Dict) (k : String) : names (d.popD k) = (names d).erase k := by
  rw [popD_eq_eraseP, List.erase_eq_eraseP', names, names, List.eraseP_map]; rfl

theorem get?_eq_some {d : Dict} (hd : (names d).Nodup) (k : String) (c : Cfg) :
    d.get? k = some c ↔ c ∈ d ∧ c.name = k :=
  List.find?_key_eq_some Cfg.name hd

theorem same_name_eq {d : Dict} (hd : (names d).Nodup) {a b : Cfg} (ha : a ∈ d) (hb : b ∈ d)
    (h : a.name = b.name) : a = b :=
  List.eq_of_nodup_map Cfg.name hd ha hb h

theorem popD_nodup {d : Dict} (hd : (names d).Nodup) (k : String) : (names (d.popD k)).Nodup :=
  names_popD d k ▸ hd.erase k

theorem popD_sublist {d : Dict} (hd : (names d).Nodup) (k : String) :
    (names (d.popD k)).Sublist (names d) :=
  names_popD d k ▸ List.erase_sublist

theorem popD_not_mem {d : Dict} (hd : (names d).Nodup) (k : String) : k ∉ names (d.popD k) :=
  names_popD d k ▸ hd.not_mem_erase

theorem popD_mem {d : Dict} (hd : (names d).Nodup) (k : String) (x : Cfg) :
    x ∈ d.popD k ↔ x ∈ d ∧ x.name ≠ k := by
  refine ⟨fun hx => ?_, fun ⟨hx, hne⟩ => ?_⟩
  · have := names_popD d k ▸ mem_names_of_mem hx
    exact ⟨List.mem_of_mem_eraseP (popD_eq_eraseP d k ▸ hx), (hd.mem_erase_iff.mp this).1⟩
  · rw [popD_eq_eraseP]; exact (List.mem_eraseP_of_neg (by simpa using hne)).mpr hx

theorem set_absent {d : Dict} (c : Cfg) (h : c.name ∉ names d) : d.set c = d ++ [c] := by
  induction d with
  | nil => rfl
  | cons y ys ih =>
    simp only [names_cons, List.mem_cons, not_or] at h
    unfold Dict.set
    have : y.name ≠ c.name := fun e => h.1 e.symm
    simp [this, ih h.2]

/-- `d[k] = d.pop(k)`: the entry is moved to the end -/
theorem moveLast_eq {d : Dict} (hd : (names d).Nodup) (k : String) (c : Cfg) (h : d.get? k = some c) :
    moveLast d k = d.popD k ++ [c] := by
  unfold moveLast
  rw [h]
  have hc := (get?_eq_some hd k c).mp h
  exact set_absent c (hc.2 ▸ popD_not_mem hd k)

theorem moveLast_none {d : Dict} (k : String) (h : d.get? k = none) : moveLast d k = d := by
  unfold moveLast; rw [h]

theorem moveLast_mem {d : Dict} (hd : (names d).Nodup) (k : String) (x : Cfg) :
    x ∈ moveLast d k ↔ x ∈ d := by
  cases h : d.get? k with
  | none => rw [moveLast_none k h]
  | some c =>
    rw [moveLast_eq hd k c h]
    have hc := (get?_eq_some hd k c).mp h
    simp only [List.mem_append, popD_mem hd, List.mem_singleton]
    constructor
    · rintro (⟨h1, _⟩ | h1)
      · exact h1
      · exact h1 ▸ hc.1
    · intro hx
      by_cases hn : x.name = k
      · exact Or.inr (same_name_eq hd hx hc.1 (hn.trans hc.2.symm))
      · exact Or.inl ⟨hx, hn⟩

theorem moveLast_nodup {d : Dict} (hd : (names d).Nodup) (k : String) : (names (moveLast d k)).Nodup := by
  cases h : d.get? k with
  | none => rw [moveLast_none k h]; exact hd
  | some c =>
    rw [moveLast_eq hd k c h, names, List.map_append]
    exact List.nodup_snoc (popD_nodup hd k) (((get?_eq_some hd k c).mp h).2 ▸ popD_not_mem hd k)

end BV.Config
