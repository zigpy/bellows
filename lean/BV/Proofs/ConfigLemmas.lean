/-
`applyOverrides` one item at a time (`applyItem_spec`), and the two write loops as `flatMap`s over their dicts
(`writeValues_eq`, `writeCfgs_eq`): what Props/C16 reads off the model of `write_config`.
-/
import BV.Proofs.Dict
namespace BV.Config

def ovNames (ov : Overrides) : List String := ov.map (·.1)

@[simp] theorem ovNames_nil : ovNames [] = [] := rfl
@[simp] theorem ovNames_cons (o : String × Nat × Option Nat) (rest : Overrides) :
    ovNames (o :: rest) = o.1 :: ovNames rest := rfl

theorem mem_names_iff {d : Dict} {n : String} : n ∈ names d ↔ ∃ x ∈ d, x.name = n := by
  simp [names]

theorem foldl_set_nodup (rows : List BV.Gen.Config.Row) (d : Dict) (hd : (names d).Nodup) :
    (names (rows.foldl (fun d r => d.set (rowCfg r)) d)).Nodup :=
  List.foldlRecOn (motive := fun d => (names d).Nodup) rows _ hd fun _ hd _ _ => set_nodup hd _

theorem defaultCfgs_nodup (rows) : (names (defaultCfgs rows)).Nodup :=
  foldl_set_nodup _ [] (by simp)

theorem defaultVals_nodup (rows) : (names (defaultVals rows)).Nodup :=
  foldl_set_nodup _ [] (by simp)

theorem get?_set_ne (d : Dict) (c : Cfg) (n : String) (h : c.name ≠ n) : (d.set c).get? n = d.get? n := by
  have hc : (c.name == n) = false := by simpa using h
  induction d with
  | nil => simp [Dict.set, Dict.get?, hc]
  | cons x xs ih =>
    unfold Dict.get? at ih ⊢
    unfold Dict.set
    split
    · rename_i hx
      simp [hc, hx]
    · rw [List.find?_cons, List.find?_cons, ih]

theorem get?_popD_ne (d : Dict) (k n : String) (h : k ≠ n) : (d.popD k).get? n = d.get? n := by
  rw [popD_eq_eraseP]
  unfold Dict.get?
  induction d with
  | nil => rfl
  | cons x xs ih =>
    by_cases hx : x.name = k
    · subst hx
      have : (x.name == n) = false := by simpa using h
      simp [this]
    · rw [List.eraseP_cons_of_neg (by simpa using hx), List.find?_cons, List.find?_cons, ih]

theorem minOf_set_ne (d : Dict) (c : Cfg) (n : String) (h : c.name ≠ n) : minOf (d.set c) n = minOf d n := by
  simp [minOf, get?_set_ne d c n h]

theorem minOf_popD_ne (d : Dict) (k n : String) (h : k ≠ n) : minOf (d.popD k) n = minOf d n := by
  simp [minOf, get?_popD_ne d k n h]

theorem minOf_of_mem {d : Dict} (hd : (names d).Nodup) {c : Cfg} (hc : c ∈ d) : minOf d c.name = c.minimum := by
  simp [minOf, (get?_eq_some hd c.name c).mpr ⟨hc, rfl⟩]

def applyItem (sup : String → Bool) (d : Dict) : String × Nat × Option Nat → Dict
  | (name, _, none) => d.popD name
  | (name, id, some v) => d.set ⟨name, id, v, !sup name && minOf d name⟩

theorem applyOverrides_cons (sup : String → Bool) (d : Dict) (o : String × Nat × Option Nat) (rest : Overrides) :
    applyOverrides sup d (o :: rest) = applyOverrides sup (applyItem sup d o) rest := by
  obtain ⟨name, id, _ | v⟩ := o <;> rfl

theorem applyItem_spec (sup : String → Bool) {d : Dict} (hd : (names d).Nodup) (o : String × Nat × Option Nat) :
    (names (applyItem sup d o)).Nodup ∧
    (∀ x, x ∈ applyItem sup d o ↔
      (∃ v, o.2.2 = some v ∧ x = ⟨o.1, o.2.1, v, !sup o.1 && minOf d o.1⟩) ∨ (x ∈ d ∧ x.name ≠ o.1)) ∧
    ∀ n, o.1 ≠ n → minOf (applyItem sup d o) n = minOf d n := by
  obtain ⟨name, id, _ | v⟩ := o
  · exact ⟨popD_nodup hd name, fun x => by simp [applyItem, popD_mem hd], minOf_popD_ne d name⟩
  · exact ⟨set_nodup hd _, fun x => by simp [applyItem, mem_set hd], fun n h => minOf_set_ne d _ n h⟩

/-- what the merged dict contains, for item lists without repeated keys (a dict): every item with a value, with
the grow-only flag only for schema-filled items whose default was grow-only, plus the defaults that were neither
replaced nor disabled -/
theorem applyOverrides_spec (sup : String → Bool) {ov : Overrides} {d : Dict} (hd : (names d).Nodup)
    (hov : (ovNames ov).Nodup) :
    (names (applyOverrides sup d ov)).Nodup ∧ ∀ x, x ∈ applyOverrides sup d ov ↔
      (∃ id v, (x.name, id, some v) ∈ ov ∧ x = ⟨x.name, id, v, !sup x.name && minOf d x.name⟩) ∨
        (x ∈ d ∧ x.name ∉ ovNames ov) := by
  induction ov generalizing d with
  | nil => exact ⟨hd, by simp [applyOverrides]⟩
  | cons o rest ih =>
    simp only [ovNames_cons, List.nodup_cons] at hov
    obtain ⟨hn1, hx1, hmin⟩ := applyItem_spec sup hd o
    obtain ⟨hn, hx⟩ := ih hn1 hov.2
    rw [applyOverrides_cons]
    refine ⟨hn, fun x => ?_⟩
    -- a later item has another key than `o`, so `o` left the flag under its key as it was
    have hne : ∀ i w, (x.name, i, w) ∈ rest → o.1 ≠ x.name := fun i w hm e =>
      hov.1 (e ▸ List.mem_map_of_mem (f := (·.1)) hm)
    rw [hx x, hx1 x]
    simp only [ovNames_cons, List.mem_cons, not_or]
    constructor
    · rintro (⟨i, w, hm, he⟩ | ⟨⟨v, hv, rfl⟩ | ⟨h1, h2⟩, h3⟩)
      · exact Or.inl ⟨i, w, Or.inr hm, hmin _ (hne i w hm) ▸ he⟩
      · exact Or.inl ⟨o.2.1, v, Or.inl (by rw [← hv]), rfl⟩
      · exact Or.inr ⟨h1, h2, h3⟩
    · rintro (⟨i, w, hm | hm, he⟩ | ⟨h1, h2, h3⟩)
      · -- the item itself: its key is new to `rest`
        refine Or.inr ⟨Or.inl ⟨w, ?_, ?_⟩, ?_⟩
        · rw [← hm]
        · rw [he, ← hm]
        · have := hov.1; rwa [← hm] at this
      · exact Or.inl ⟨i, w, hm, (hmin _ (hne i w hm)).symm ▸ he⟩
      · exact Or.inr ⟨Or.inr ⟨h1, h2⟩, h3⟩

def setNames : List Op → List String
  | [] => []
  | .setCfg n _ _ :: ops => n :: setNames ops
  | _ :: ops => setNames ops

theorem setNames_append (a b : List Op) : setNames (a ++ b) = setNames a ++ setNames b := by
  induction a with
  | nil => rfl
  | cons x xs ih => cases x <;> simp [setNames, ih]

def cfgOps (ncp : Ncp) (c : Cfg) : List Op :=
  if skip ncp c then [.getCfg c.id] else [.getCfg c.id, .setCfg c.name c.id c.value]

/-- both loops go on whatever the NCP answers to a set, so each is a `flatMap` over its dict -/
theorem writeCfgs_eq (ncp : Ncp) (d : Dict) : writeCfgs ncp d = d.flatMap (cfgOps ncp) := by
  induction d with
  | nil => rfl
  | cons x xs ih => simp only [writeCfgs, ite_self, ih, List.flatMap_cons, cfgOps]; split <;> rfl

theorem writeValues_eq (ncp : Ncp) (d : Dict) :
    writeValues ncp d = d.flatMap fun c => [.getValue c.id, .setValue c.id c.value] := by
  induction d with
  | nil => rfl
  | cons x xs ih => simp only [writeValues, ite_self, ih, List.flatMap_cons, List.cons_append, List.nil_append]

/-- the sequence of reads and writes does not depend on which sets the NCP accepts: `skip` reads only `cur` -/
theorem writeCfgs_accept_indep (cur : Nat → Option Nat) (a1 a2 v1 v2 : Nat → Bool) (d : Dict) :
    writeCfgs ⟨cur, a1, v1⟩ d = writeCfgs ⟨cur, a2, v2⟩ d := by
  rw [writeCfgs_eq, writeCfgs_eq]; rfl

theorem writeValues_accept_indep (cur : Nat → Option Nat) (a1 a2 v1 v2 : Nat → Bool) (d : Dict) :
    writeValues ⟨cur, a1, v1⟩ d = writeValues ⟨cur, a2, v2⟩ d := by
  rw [writeValues_eq, writeValues_eq]

theorem writeCfgs_append (ncp : Ncp) (a b : Dict) :
    writeCfgs ncp (a ++ b) = writeCfgs ncp a ++ writeCfgs ncp b := by
  simp only [writeCfgs_eq, List.flatMap_append]

theorem setNames_writeValues (ncp : Ncp) (d : Dict) : setNames (writeValues ncp d) = [] := by
  induction d with
  | nil => rfl
  | cons x xs ih => simp [writeValues, setNames, ih]

theorem setNames_writeCfgs_sublist (ncp : Ncp) (d : Dict) :
    (setNames (writeCfgs ncp d)).Sublist (names d) := by
  induction d with
  | nil => simp [writeCfgs, setNames]
  | cons x xs ih =>
    simp only [writeCfgs]
    split
    · simpa [setNames] using ih.cons x.name
    · simpa [setNames] using ih.cons_cons x.name

theorem mem_writeCfgs_set {ncp : Ncp} {d : Dict} {n : String} {i v : Nat} :
    Op.setCfg n i v ∈ writeCfgs ncp d ↔
      ∃ c ∈ d, c.name = n ∧ c.id = i ∧ c.value = v ∧ skip ncp c = false := by
  simp only [writeCfgs_eq, List.mem_flatMap, cfgOps]
  refine exists_congr fun c => and_congr_right fun _ => ?_
  cases skip ncp c <;> simp [eq_comm]

theorem mem_writeValues_no_setCfg {ncp : Ncp} {d : Dict} {n : String} {i v : Nat} :
    Op.setCfg n i v ∉ writeValues ncp d := by
  simp [writeValues_eq]

end BV.Config
