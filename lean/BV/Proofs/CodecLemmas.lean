/-
Decoding inverts encoding on the prefix-free fragment (`de_ser`, by mutual induction with element lists and field
lists) and in the last position of a schema (`de_tail`); the table check of `TDesc` in its one-pass form.
-/
import BV.Model.Ezsp.Codec
import BV.Proofs.Distinct
namespace BV.Codec

theorem leVal_leBytes (k n : Nat) (h : n < 256 ^ k) : leVal (leBytes k n) = n := by
  induction k generalizing n with
  | zero => rw [show n = 0 by simpa using h]; rfl
  | succ k ih =>
    simp only [leBytes, leVal]
    have : n / 256 < 256 ^ k := by
      rw [Nat.pow_succ] at h; omega
    rw [ih _ this, UInt8.toNat_ofNat_of_lt' (Nat.mod_lt _ (by decide))]
    exact Nat.mod_add_div n 256

theorem leBytes_length (k n : Nat) : (leBytes k n).length = k := by
  induction k generalizing n with
  | zero => rfl
  | succ k ih => simp [leBytes, ih]

mutual
/-- prefix-free fragment: the encoding determines its own end -/
def TDesc.pf : TDesc → Bool
  | .uint _ => true
  | .sint _ => true
  | .lvbytes _ => true
  | .fixedlist _ e => e.pf
  | .lvlist _ e => e.pf
  | .struct fs => pfAll fs
  | _ => false
def pfAll : List TDesc → Bool
  | [] => true
  | f :: fs => f.pf && pfAll fs
end

mutual
theorem de_ser (fuel : Nat) (d : TDesc) (v : Val) (out rest : List UInt8) (hp : d.pf = true)
    (h : ser d v = some out) : de fuel d (out ++ rest) = some (v, rest) := by
  cases d with
  | uint k | sint k =>
    cases v <;> simp [ser] at h
    rename_i n
    obtain ⟨hn, rfl⟩ := h
    simp [de, leBytes_length, leVal_leBytes k n hn]
  | lvbytes p =>
    cases v <;> simp [ser] at h
    rename_i bs
    obtain ⟨hn, rfl⟩ := h
    simp [de, leBytes_length, List.append_assoc, leVal_leBytes p _ hn]
  | fixedlist n e =>
    cases v <;> simp [ser] at h
    rename_i vs
    obtain ⟨hn, h⟩ := h
    have he : e.pf = true := by simpa [TDesc.pf] using hp
    simp [de, deN_serAll fuel e vs out rest he h, ← hn]
  | lvlist p e =>
    cases v <;> simp [ser] at h
    rename_i vs
    obtain ⟨hn, o, h, rfl⟩ := h
    have he : e.pf = true := by simpa [TDesc.pf] using hp
    simp [de, leBytes_length, List.append_assoc, leVal_leBytes p _ hn, deN_serAll fuel e vs o rest he h]
  | struct fs =>
    cases v <;> simp [ser] at h
    rename_i vs
    have hf : pfAll fs = true := by simpa [TDesc.pf] using hp
    simp [de, deFields_serFields fuel fs vs out rest hf h]
  | _ => simp [TDesc.pf] at hp
theorem deN_serAll (fuel : Nat) (e : TDesc) (vs : List Val) (out rest : List UInt8) (hp : e.pf = true)
    (h : serAll e vs = some out) : deN fuel e vs.length (out ++ rest) = some (vs, rest) := by
  cases vs with
  | nil => simp [serAll] at h; subst h; simp [deN]
  | cons v vs =>
    simp [serAll, Option.bind_eq_some_iff] at h
    obtain ⟨a, ha, b, hb, rfl⟩ := h
    simp [deN, List.append_assoc, de_ser fuel e v a (b ++ rest) hp ha, deN_serAll fuel e vs b rest hp hb]
theorem deFields_serFields (fuel : Nat) (fs : List TDesc) (vs : List Val) (out rest : List UInt8)
    (hp : pfAll fs = true) (h : serFields fs vs = some out) :
    deFields fuel fs (out ++ rest) = some (vs, rest) := by
  cases fs with
  | nil => cases vs <;> simp [serFields] at h; subst h; simp [deFields]
  | cons f fs =>
    cases vs with
    | nil => simp [serFields] at h
    | cons v vs =>
      simp [serFields, Option.bind_eq_some_iff] at h
      obtain ⟨a, ha, b, hb, rfl⟩ := h
      simp only [pfAll, Bool.and_eq_true] at hp
      simp [deFields, List.append_assoc, de_ser fuel f v a (b ++ rest) hp.1 ha,
        deFields_serFields fuel fs vs b rest hp.2 hb]
end

/-- what may stand in last position of a schema: a prefix-free field, raw bytes, or an optional
prefix-free field -/
def tailOk : TDesc → Bool
  | .rest => true
  | .opt t => t.pf
  | d => d.pf

/-- schemas covered by the round-trip theorem: prefix-free fields, then at most one tail field -/
def rtOk : List TDesc → Bool
  | [] => true
  | [d] => tailOk d
  | d :: ds => d.pf && rtOk ds

/-- a present optional value is not the `absent` marker and has a non-empty encoding -/
def tailVal (d : TDesc) (v : Val) (out : List UInt8) : Prop :=
  match d with
  | .opt _ => v = .absent ∨ (v ≠ .absent ∧ out ≠ [])
  | _ => True

theorem de_tail (fuel : Nat) (d : TDesc) (v : Val) (out : List UInt8) (hd : tailOk d = true)
    (h : ser d v = some out) (hv : tailVal d v out) : de fuel d out = some (v, []) := by
  cases d with
  | rest => cases v <;> simp [ser] at h; subst h; simp [de]
  | opt t =>
    have ht : t.pf = true := by simpa [tailOk] using hd
    rcases hv with rfl | ⟨hne, hout⟩
    · simp [ser] at h; subst h; simp [de]
    · have h' : ser t v = some out := by
        cases v <;> simp_all [ser]
      have := de_ser fuel t v out [] ht h'
      simp only [List.append_nil] at this
      have he : out.isEmpty = false := by cases out <;> simp_all
      simp [de, he, this]
  | _ => simpa using de_ser fuel _ v out [] (by simpa [tailOk] using hd) h

/-- side condition on the value of the tail field, lifted to a value tuple -/
def tailVals : List TDesc → List Val → Prop
  | [d], [v] => ∀ out, ser d v = some out → tailVal d v out
  | _ :: ds, _ :: vs => tailVals ds vs
  | _, _ => True

theorem nodupNat_iff {l : List Nat} : nodupNat l = true ↔ l.Nodup := by
  induction l with
  | nil => simp [nodupNat]
  | cons x xs ih => simp [nodupNat, ih]

theorem nodupStr_iff {l : List String} : nodupStr l = true ↔ l.Nodup := by
  induction l with
  | nil => simp [nodupStr]
  | cons x xs ih => simp [nodupStr, ih]

/-- `tableOk` with its two whole-table repetition tests in the one-pass form of `BV.distinct` -/
def tableOkFast (maxId : Nat) (cs : List Cmd) : Bool :=
  distinct (cs.map (·.id)) && distinct ((cs.map (·.name)).map strKey) && cs.all (rowOk maxId)

theorem tableOk_of_fast {maxId : Nat} {cs : List Cmd} (h : tableOkFast maxId cs = true) : tableOk maxId cs = true := by
  simp only [tableOkFast, Bool.and_eq_true] at h
  simp only [tableOk, Bool.and_eq_true, nodupNat_iff, nodupStr_iff]
  exact ⟨⟨nodup_of_distinct h.1.1, nodup_of_distinct_map strKey h.1.2⟩, h.2⟩

/-- what the receive path uses of a checked table: frame IDs do not repeat, and each fits the header -/
theorem tableOk_ids {maxId : Nat} {cs : List Cmd} (h : tableOk maxId cs = true) :
    (cs.map (·.id)).Nodup ∧ ∀ c ∈ cs, c.id ≤ maxId := by
  simp only [tableOk, rowOk, Bool.and_eq_true, List.all_eq_true, decide_eq_true_eq, nodupNat_iff] at h
  exact ⟨h.1.1, fun c hc => (h.2 c hc).1.1.1.1.1⟩

end BV.Codec
