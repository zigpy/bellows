/-
The invariant of `Multicast`'s bookkeeping (`Inv`): how an index changes hands (`claim`, `release`; a set of free indices
may be re-listed, `avail_congr`) and that the start-up scan establishes it (`snoc_*`, `scan_inv`), for Props/C15 and the
source-level proof (BV/Proofs/Src/Mcast.lean).
-/
import BV.Model.Multicast
import BV.Proofs.Keyed
namespace BV.Mcast

def groups (h : Host) : List Nat := h.mc.map (·.1)

/-- `Multicast`'s bookkeeping against the NCP's multicast table: every subscribed group (`_multicast`) sits at its
index with a non-zero endpoint, every index in `_available` holds a cleared entry, and each index is one or the other. -/
structure Inv (h : Host) (tab : Tab) : Prop where
  gNodup : (groups h).Nodup
  used : ∀ g i, (g, i) ∈ h.mc → ∃ ep, tab[i]? = some (g, ep) ∧ ep ≠ 0
  aNodup : h.avail.Nodup
  free : ∀ i ∈ h.avail, ∃ g, tab[i]? = some (g, 0)
  cover : ∀ i, i < tab.length → i ∈ h.avail ∨ ∃ g, (g, i) ∈ h.mc

/-- each group is programmed (non-zero endpoint) at most once -/
def NodupGroups (tab : Tab) : Prop :=
  ∀ (i j g e1 e2 : Nat), tab[i]? = some (g, e1) → tab[j]? = some (g, e2) → e1 ≠ 0 → e2 ≠ 0 → i = j

variable {mc : List (Nat × Nat)} {a : List Nat} {g i j : Nat}

theorem lookupIdx_eq_lookup (mc : List (Nat × Nat)) (g : Nat) : lookupIdx mc g = mc.lookup g := by
  simpa [lookupIdx] using (List.lookup_map_pair (·.1) (·.2) mc g).symm

theorem lookupIdx_some (h : lookupIdx mc g = some i) : (g, i) ∈ mc :=
  List.mem_of_lookup_eq_some (lookupIdx_eq_lookup mc g ▸ h)

theorem lookupIdx_none {mc : List (Nat × Nat)} {g : Nat} : lookupIdx mc g = none ↔ g ∉ mc.map (·.1) := by
  rw [lookupIdx_eq_lookup, List.lookup_eq_none_iff, List.mem_map]
  constructor
  · rintro h ⟨p, hp, e⟩
    simpa [e] using h p hp
  · intro h p hp
    simpa using fun e => h ⟨p, hp, e.symm⟩

theorem lookupIdx_isSome : (lookupIdx mc g).isSome ↔ g ∈ mc.map (·.1) := by
  rw [← Option.ne_none_iff_isSome, Ne, lookupIdx_none, Decidable.not_not]

theorem mcSet_absent (h : g ∉ mc.map (·.1)) : mcSet mc g i = mc ++ [(g, i)] := by
  induction mc with
  | nil => rfl
  | cons x xs ih =>
    rw [List.map_cons, List.mem_cons, not_or] at h
    simp [mcSet, Ne.symm h.1, ih h.2]

theorem mem_addAvail : j ∈ addAvail a i ↔ j ∈ a ∨ j = i := by
  unfold addAvail; split
  · exact ⟨Or.inl, fun h => h.elim id (· ▸ ‹i ∈ a›)⟩
  · simp

theorem addAvail_nodup (h : a.Nodup) (i : Nat) : (addAvail a i).Nodup := by
  unfold addAvail; split
  · exact h
  · exact List.nodup_snoc h ‹i ∉ a›

namespace Inv
variable {h : Host} {tab : Tab} (inv : Inv h tab)
include inv

theorem idx_unique (h1 : (g, i) ∈ h.mc) (h2 : (g, j) ∈ h.mc) : i = j :=
  congrArg Prod.snd (List.eq_of_nodup_map (·.1) (show (h.mc.map (·.1)).Nodup from inv.gNodup) h1 h2 rfl)

theorem excl (ha : i ∈ h.avail) (hm : (g, i) ∈ h.mc) : False := by
  obtain ⟨g0, h0⟩ := inv.free i ha
  obtain ⟨ep, hep, hne⟩ := inv.used g i hm
  rw [h0] at hep; cases hep; exact hne rfl

theorem owner {e : Nat} (hk : tab[i]? = some (g, e)) (ne : e ≠ 0) : (g, i) ∈ h.mc := by
  rcases inv.cover i (List.getElem?_eq_some_iff.mp hk).1 with ha | ⟨g', hg'⟩
  · obtain ⟨g0, h0⟩ := inv.free i ha
    rw [hk] at h0; cases h0; exact absurd rfl ne
  · obtain ⟨ep, hep, _⟩ := inv.used g' i hg'
    rw [hk] at hep; cases hep; exact hg'

theorem nodupGroups : NodupGroups tab := fun _ _ _ _ _ h1 h2 n1 n2 =>
  inv.idx_unique (inv.owner h1 n1) (inv.owner h2 n2)

theorem avail_congr {a' : List Nat} (hn : a'.Nodup) (hm : ∀ j, j ∈ a' ↔ j ∈ h.avail) :
    Inv { h with avail := a' } tab :=
  { inv with
    aNodup := hn
    free := fun i hi => inv.free i ((hm i).mp hi)
    cover := fun i hi => (inv.cover i hi).imp (hm i).mpr id }

theorem claim {c ep : Nat} (hc : c ∈ h.avail) (hg : g ∉ groups h) (hep : ep ≠ 0) :
    Inv { mc := h.mc ++ [(g, c)], avail := h.avail.erase c } (tab.set c (g, ep)) := by
  obtain ⟨g0, hg0⟩ := inv.free c hc
  have hmem : ∀ j, j ∈ h.avail.erase c ↔ j ≠ c ∧ j ∈ h.avail := fun j => inv.aNodup.mem_erase_iff
  exact {
    gNodup := by rw [groups, List.map_append]; exact List.nodup_snoc inv.gNodup hg
    used := fun g' i hm => by
      rcases List.mem_append.mp hm with hm | hm
      · have : c ≠ i := fun e => inv.excl hc (e ▸ hm)
        rw [List.getElem?_set_ne this]; exact inv.used g' i hm
      · cases List.mem_singleton.mp hm
        exact ⟨ep, List.getElem?_set_self (List.getElem?_eq_some_iff.mp hg0).1, hep⟩
    aNodup := inv.aNodup.erase c
    free := fun i hi => by
      obtain ⟨hne, hi⟩ := (hmem i).mp hi
      rw [List.getElem?_set_ne (Ne.symm hne)]; exact inv.free i hi
    cover := fun i hi => by
      rw [List.length_set] at hi
      by_cases e : i = c
      · exact Or.inr ⟨g, by simp [e]⟩
      · exact (inv.cover i hi).imp (fun ha => (hmem i).mpr ⟨e, ha⟩) fun ⟨g', hm⟩ => ⟨g', List.mem_append_left _ hm⟩ }

theorem release {idx : Nat} (hm : (g, idx) ∈ h.mc) :
    Inv { mc := h.mc.filter (·.1 != g), avail := addAvail h.avail idx } (tab.set idx (g, 0)) := by
  obtain ⟨ep, hep, hne⟩ := inv.used g idx hm
  exact {
    gNodup := (List.filter_sublist.map _).nodup inv.gNodup
    used := fun g' i hmem => by
      obtain ⟨hmem, hg'⟩ := List.mem_filter.mp hmem
      have : idx ≠ i := fun e => by
        obtain ⟨_, hep', _⟩ := inv.used g' i hmem
        rw [← e, hep] at hep'; cases hep'; simp at hg'
      rw [List.getElem?_set_ne this]; exact inv.used g' i hmem
    aNodup := addAvail_nodup inv.aNodup idx
    free := fun i hi => by
      rcases mem_addAvail.mp hi with hi | rfl
      · have : idx ≠ i := fun e => inv.excl hi (e ▸ hm)
        rw [List.getElem?_set_ne this]; exact inv.free i hi
      · exact ⟨g, List.getElem?_set_self (List.getElem?_eq_some_iff.mp hep).1⟩
    cover := fun i hi => by
      rw [List.length_set] at hi
      rcases inv.cover i hi with h1 | ⟨g', h1⟩
      · exact Or.inl (mem_addAvail.mpr (Or.inl h1))
      · by_cases e : g' = g
        · exact Or.inl (mem_addAvail.mpr (Or.inr (inv.idx_unique (e ▸ h1) hm)))
        · exact Or.inr ⟨g', List.mem_filter.mpr ⟨h1, by simpa using e⟩⟩ }

theorem snoc_free (g : Nat) : Inv { h with avail := addAvail h.avail tab.length } (tab ++ [(g, 0)]) :=
  have keep : ∀ {i x}, tab[i]? = some x → (tab ++ [(g, 0)])[i]? = some x := fun hx => by
    rw [List.getElem?_append_left (List.getElem?_eq_some_iff.mp hx).1]; exact hx
  { inv with
    used := fun g' i hm => let ⟨ep, hep, hne⟩ := inv.used g' i hm; ⟨ep, keep hep, hne⟩
    aNodup := addAvail_nodup inv.aNodup _
    free := fun i hi => by
      rcases mem_addAvail.mp hi with hi | rfl
      · exact let ⟨g', hg'⟩ := inv.free i hi; ⟨g', keep hg'⟩
      · exact ⟨g, List.getElem?_concat_length⟩
    cover := fun i hi => by
      rw [List.length_append, List.length_singleton] at hi
      rcases Nat.lt_succ_iff_lt_or_eq.mp hi with hlt | rfl
      · exact (inv.cover i hlt).imp (fun ha => mem_addAvail.mpr (Or.inl ha)) id
      · exact Or.inl (mem_addAvail.mpr (Or.inr rfl)) }

/-- the index is first free, then claimed -/
theorem snoc_used {ep : Nat} (hg : g ∉ groups h) (hep : ep ≠ 0) :
    Inv { h with mc := h.mc ++ [(g, tab.length)] } (tab ++ [(g, ep)]) := by
  have hn : tab.length ∉ h.avail := fun ha =>
    let ⟨_, h0⟩ := inv.free _ ha; Nat.lt_irrefl _ (List.getElem?_eq_some_iff.mp h0).1
  have := (inv.snoc_free g).claim (mem_addAvail.mpr (Or.inr rfl)) hg hep
  simpa [addAvail, hn, List.erase_append_right _ hn] using this

end Inv

theorem scanFrom_inv (pre suf : Tab) (h : Host) (hng : NodupGroups (pre ++ suf)) (inv : Inv h pre) :
    Inv (scanFrom pre.length suf h) (pre ++ suf) := by
  induction suf generalizing pre h with
  | nil => simpa [scanFrom] using inv
  | cons x rest ih =>
    obtain ⟨g, ep⟩ := x
    have happ : pre ++ (g, ep) :: rest = (pre ++ [(g, ep)]) ++ rest := by simp
    have hlen : (pre ++ [(g, ep)]).length = pre.length + 1 := by simp
    rw [scanFrom, happ, ← hlen]
    split
    · rename_i hep
      -- a group seen before would be programmed twice
      have hgn : g ∉ groups h := fun hmem => by
        obtain ⟨⟨g', i'⟩, hm, rfl⟩ := List.mem_map.mp hmem
        obtain ⟨e', he', hne'⟩ := inv.used _ _ hm
        have hlt := (List.getElem?_eq_some_iff.mp he').1
        have := hng i' pre.length g' e' ep (by rw [List.getElem?_append_left hlt]; exact he') (by simp) hne' hep
        omega
      rw [mcSet_absent hgn]
      exact ih _ _ (happ ▸ hng) (inv.snoc_used hgn hep)
    · rename_i hep
      cases Decidable.not_not.mp hep
      exact ih _ _ (happ ▸ hng) (inv.snoc_free g)

theorem scan_inv (tab : Tab) (hng : NodupGroups tab) : Inv (scan tab) tab := by
  simpa [scan] using scanFrom_inv [] tab {} (by simpa using hng)
    ⟨by simp [groups], by simp, by simp, by simp, by simp⟩

end BV.Mcast
