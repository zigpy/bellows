/-
`BV.Watchdog.feed` with its `let`s and `if`s resolved per component: what the C19 theorems and the source-level tie (Src/Wd)
read off one step of the watchdog model.
-/
import BV.Model.Watchdog
namespace BV.Watchdog
open BV.Gen.App

theorem feed_eq (v : Nat) (w : Wd) (o : Outcome) : feed v w o =
    ({ failures := if o.failed then w.failures + 1 else 0, feedCounter := if v = 4 then w.feedCounter else w.feedCounter + 1 },
     o.failed && decide (w.failures + 1 > maxWatchdogFailures),
     if v = 4 then .nop else if (w.feedCounter + 1) % countersClearPeriods > 0 then .readCounters else .readAndClearCounters) := by
  cases h : o.failed <;> by_cases hv : v = 4 <;> by_cases hr : (w.feedCounter + 1) % countersClearPeriods > 0 <;>
    simp [feed, keepAlive, h, hv, hr]

end BV.Watchdog
