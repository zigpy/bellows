/-
Repetition-freeness of a table in a form the kernel evaluates in one pass: `xs.contains x` under `decide` is a
search per element, quadratic in all, which for the generated command tables is the bulk of their check.
`distinct` passes each element once and does arithmetic on literals only, which the kernel performs natively.
For strings what remains is the UTF-8 encoding of each literal, once per declaration.
-/
namespace BV

/-- `m` has bit `s % 65537` set for every `s` in `seen`: a clear bit shows that `k` is new, a set bit is settled by
searching `seen`.  65537 is above every frame ID, so for IDs the search never runs; string keys can collide. -/
def distinctFrom (seen : List Nat) (m : Nat) : List Nat → Bool
  | [] => true
  | k :: ks => (!m.testBit (k % 65537) || !seen.contains k) &&
      distinctFrom (k :: seen) (m ||| 1 <<< (k % 65537)) ks

def distinct (l : List Nat) : Bool := distinctFrom [] 0 l

theorem distinctFrom_sound {seen : List Nat} {m : Nat} {l : List Nat}
    (hm : ∀ s ∈ seen, m.testBit (s % 65537) = true) (h : distinctFrom seen m l = true) :
    l.Nodup ∧ ∀ k ∈ l, k ∉ seen := by
  induction l generalizing seen m with
  | nil => simp
  | cons k ks ih =>
    simp only [distinctFrom, Bool.and_eq_true, Bool.or_eq_true, Bool.not_eq_true', List.contains_eq_mem,
      decide_eq_false_iff_not] at h
    have hk : k ∉ seen := h.1.elim (fun hb hs => by simp [hm k hs] at hb) id
    obtain ⟨hnd, hns⟩ := ih (seen := k :: seen) (fun s hs => by
      rw [Nat.testBit_or, Nat.one_shiftLeft, Nat.testBit_two_pow]
      rcases List.mem_cons.mp hs with rfl | hs
      · simp
      · simp [hm s hs]) h.2
    refine ⟨List.nodup_cons.mpr ⟨fun hin => hns k hin (List.mem_cons_self ..), hnd⟩, fun x hx => ?_⟩
    rcases List.mem_cons.mp hx with rfl | hx
    · exact hk
    · exact fun hs => hns x hx (List.mem_cons_of_mem _ hs)

theorem nodup_of_distinct {l : List Nat} (h : distinct l = true) : l.Nodup :=
  (distinctFrom_sound (by simp) h).1

theorem nodup_of_distinct_map {α} (f : α → Nat) {l : List α} (h : distinct (l.map f) = true) : l.Nodup :=
  (nodup_of_distinct h).of_map f fun _ _ hne he => hne (congrArg f he)

/-- not injective (leading zero bytes), and need not be: `nodup_of_distinct_map` takes any numbering -/
def strKey (s : String) : Nat := s.toByteArray.data.toList.foldl (fun n b => n * 256 + b.toNat) 0

end BV
