/-
The two synchronous primitives of the reset model (`BV.Reset.connectionLost`, `resetReceived`) with their pattern matches
resolved per field: what the invariant proofs (C11), the failure paths (C10) and the source-level tie (Src/Uart) read off them.
-/
import BV.Model.Stack.Reset
namespace BV.Reset
open BV.Gen.Ash

theorem connectionLost_fst (s : GW) (e : Bool) : (connectionLost s e).1 =
    { s with startupFut := if s.startupFut = some .pending then some .exc else s.startupFut
             connDonePending := false
             resetFut := none
             waitFut := if s.resetFut = some .pending then .exc else s.waitFut } := by
  obtain ⟨ash, rf, wf, sf, rw, sw, cd, dl, ft, now⟩ := s
  rcases sf with _ | (_ | _ | _ | _) <;> rcases rf with _ | (_ | _ | _ | _) <;> simp [connectionLost]

theorem connectionLost_snd (s : GW) (e : Bool) : (connectionLost s e).2 =
    (if s.connDonePending then [.connDone e] else []) ++ (if e then [.appLost] else []) := by
  simp only [connectionLost]; split <;> rfl

theorem resetReceived_software (s : GW) : resetReceived s resetSoftware =
    (if s.resetFut = some .pending then { s with resetFut := some .result, waitFut := .result }
     else if s.startupFut = some .pending then { s with startupFut := some .result } else s, []) := by
  obtain ⟨ash, rf, wf, sf, rw, sw, cd, dl, ft, now⟩ := s
  rcases rf with _ | (_ | _ | _ | _) <;> rcases sf with _ | (_ | _ | _ | _) <;> simp [resetReceived]

end BV.Reset
