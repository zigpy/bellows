/-
Python run-time notions used by the source-level translator (harness/pytrans.py).

The translator turns the syntax tree of a restricted set of bellows functions into Lean
definitions (BV/Gen/Src*.lean); this file fixes what the Python operations it meets mean.
It is hand written and part of the trusted base: it is *my model of CPython* for

  * integers          -> `Nat` (values known non-negative) / `Int` (anything built with `-`)
  * bytes / bytearray -> `List UInt8`; building one from an int outside range(256) raises
  * exceptions        -> `Except PyErr` (pure functions) or `PyM σ` (methods: the object's
                         fields survive a raise, exactly as attribute writes do in Python)
  * `for` / `while`   -> `forM` / `whileM` with an explicit control value (next/break/return);
                         `while` takes fuel, running out of fuel is its own error, never a result

No Mathlib.  Everything is executable (the driver runs the generated definitions too).
-/
namespace BV.Py

inductive PyErr
  | raised (cls : String)        -- a Python exception of that class
  | unsupported (what : String)  -- an operation outside the modelled fragment was reached
  | fuel                         -- a `while` loop exceeded the fuel given by the translator
deriving Repr, DecidableEq, Inhabited

deriving instance DecidableEq for Except

/-- exception classes that derive from `BaseException` but not from `Exception`: `except Exception` lets them through
(a task cancelled while it awaits is the one that matters for the translated coroutines) -/
def baseOnly : List String := ["CancelledError", "KeyboardInterrupt", "SystemExit", "GeneratorExit"]

/-- does `except <classes>:` catch this?  (`[]` = `except Exception`; running out of fuel or leaving the modelled fragment is
not a Python exception and is never caught) -/
def PyErr.caughtBy (e : PyErr) (classes : List String) : Bool :=
  match e with
  | .raised c => (classes.isEmpty && !baseOnly.contains c) || classes.contains c
  | _ => false

/-- loop control value produced by one iteration of a translated loop body -/
inductive Ctl (σ ρ : Type)
  | next (s : σ)   -- fell off the end of the body, or `continue`
  | brk (s : σ)    -- `break`
  | ret (r : ρ)    -- `return r` from inside the loop
deriving Repr

/-- what a finished loop hands back: the carried locals (and whether it ended by `break`), or a `return` -/
inductive LoopRes (σ ρ : Type)
  | done (s : σ) (broke : Bool)
  | ret (r : ρ)
deriving Repr

/-! ### methods: state that survives exceptions -/

/-- a computation on an object of type `σ`: result or exception, and the object afterwards -/
def PyM (σ α : Type) := σ → Except PyErr α × σ

namespace PyM
variable {σ α β : Type}

@[inline] def pure (a : α) : PyM σ α := fun s => (.ok a, s)
@[inline] def bind (m : PyM σ α) (f : α → PyM σ β) : PyM σ β := fun s =>
  match m s with
  | (.ok a, s') => f a s'
  | (.error e, s') => (.error e, s')
@[inline] def throw (e : PyErr) : PyM σ α := fun s => (.error e, s)
@[inline] def get : PyM σ σ := fun s => (.ok s, s)
@[inline] def set (s : σ) : PyM σ Unit := fun _ => (.ok (), s)
@[inline] def modify (f : σ → σ) : PyM σ Unit := fun s => (.ok (), f s)
/-- lift a pure partial computation -/
@[inline] def lift (e : Except PyErr α) : PyM σ α := fun s => (e, s)
/-- `try: m  except <classes>: h`; `classes = []` means a bare `except Exception` -/
@[inline] def tryCatch (m : PyM σ α) (classes : List String) (h : PyM σ α) : PyM σ α := fun s =>
  match m s with
  | (.ok a, s') => (.ok a, s')
  | (.error (.raised c), s') =>
    if (classes.isEmpty && !baseOnly.contains c) || classes.contains c then h s' else (.error (.raised c), s')
  | (.error e, s') => (.error e, s')

/-- run `m`, turning a raised exception into a value (the object's state after the raise is kept) -/
@[inline] def attempt (m : PyM σ α) : PyM σ (Except PyErr α) := fun s =>
  match m s with
  | (r, s') => (.ok r, s')

instance : Monad (PyM σ) where
  pure := PyM.pure
  bind := PyM.bind

@[simp] theorem pure_apply (a : α) (s : σ) : (Pure.pure a : PyM σ α) s = (.ok a, s) := rfl
@[simp] theorem bind_apply (m : PyM σ α) (f : α → PyM σ β) (s : σ) :
    (m >>= f) s = match m s with
      | (.ok a, s') => f a s'
      | (.error e, s') => (.error e, s') := rfl
@[simp] theorem throw_apply (e : PyErr) (s : σ) : (throw e : PyM σ α) s = (.error e, s) := rfl
@[simp] theorem get_apply (s : σ) : (get : PyM σ σ) s = (.ok s, s) := rfl
@[simp] theorem set_apply (s t : σ) : (set t : PyM σ Unit) s = (.ok (), t) := rfl
@[simp] theorem modify_apply (f : σ → σ) (s : σ) : (modify f : PyM σ Unit) s = (.ok (), f s) := rfl
@[simp] theorem lift_apply (e : Except PyErr α) (s : σ) : (lift e : PyM σ α) s = (e, s) := rfl
theorem ite_apply (c : Prop) [Decidable c] (m n : PyM σ α) (s : σ) :
    (if c then m else n) s = if c then m s else n s := by split <;> rfl
theorem bind_get_apply (f : σ → PyM σ β) (s : σ) : (get >>= f) s = f s s := rfl

end PyM

/-! ### loops -/

/-- `for x in xs:` in `Except` -/
def forE {α σ ρ : Type} (body : σ → α → Except PyErr (Ctl σ ρ)) : List α → σ → Except PyErr (LoopRes σ ρ)
  | [], s => .ok (.done s false)
  | x :: xs, s =>
    match body s x with
    | .error e => .error e
    | .ok (.next s') => forE body xs s'
    | .ok (.brk s') => .ok (.done s' true)
    | .ok (.ret r) => .ok (.ret r)

/-- `for x in xs:` in `PyM` -/
def forM {α σ τ ρ : Type} (body : τ → α → PyM σ (Ctl τ ρ)) : List α → τ → PyM σ (LoopRes τ ρ)
  | [], t => PyM.pure (.done t false)
  | x :: xs, t => fun s =>
    match body t x s with
    | (.error e, s') => (.error e, s')
    | (.ok (.next t'), s') => forM body xs t' s'
    | (.ok (.brk t'), s') => (.ok (.done t' true), s')
    | (.ok (.ret r), s') => (.ok (.ret r), s')

/-- `while cond:` in `PyM`, with fuel; `body` evaluates the condition itself and answers `brk` when it is false -/
def whileM {σ τ ρ : Type} (body : τ → PyM σ (Ctl τ ρ)) : Nat → τ → PyM σ (LoopRes τ ρ)
  | 0, _ => PyM.throw .fuel
  | fuel + 1, t => fun s =>
    match body t s with
    | (.error e, s') => (.error e, s')
    | (.ok (.next t'), s') => whileM body fuel t' s'
    | (.ok (.brk t'), s') => (.ok (.done t' true), s')
    | (.ok (.ret r), s') => (.ok (.ret r), s')

/-- a loop whose body never returns: the carried locals and whether it ended by `break` -/
def LoopRes.noRet {σ : Type} : LoopRes σ Empty → σ × Bool
  | .done s b => (s, b)
  | .ret r => nomatch r

/-! ### integers -/

def b2n (b : Bool) : Nat := if b then 1 else 0

/-- `range(a, b)` over Python ints -/
def rangeI (a b : Int) : List Int := (List.range (b - a).toNat).map fun (i : Nat) => a + Int.ofNat i
/-- `range(n)` -/
def rangeN (n : Nat) : List Nat := List.range n

/-! ### bytes -/

/-- `bytes([..])` / `bytearray.append` / `.extend`: every element must be in range(256) -/
def bytesOf (xs : List Nat) : Except PyErr (List UInt8) :=
  if xs.all (· < 256) then .ok (xs.map UInt8.ofNat) else .error (.raised "ValueError")

/-- iterating a bytes object yields ints -/
def ints (bs : List UInt8) : List Nat := bs.map UInt8.toNat

/-- `data[i]` for a non-negative index -/
def byteAt (bs : List UInt8) (i : Nat) : Except PyErr Nat :=
  match bs[i]? with
  | some b => .ok b.toNat
  | none => .error (.raised "IndexError")

/-- `data[a:]`, `data[:b]`, `data[a:b]` with non-negative literal/len-relative bounds -/
def sliceFrom (bs : List α) (a : Nat) : List α := bs.drop a
def sliceTo (bs : List α) (b : Nat) : List α := bs.take b
/-- `data[:-k]` -/
def sliceToNeg (bs : List α) (k : Nat) : List α := bs.take (bs.length - k)
/-- `data[-k:]` (k > 0) -/
def sliceFromNeg (bs : List α) (k : Nat) : List α := bs.drop (bs.length - k)
/-- `data[a:-k]` -/
def sliceMid (bs : List α) (a k : Nat) : List α := (bs.take (bs.length - k)).drop a

/-- `n.to_bytes(2, "big")` (OverflowError beyond 16 bits) -/
def toBytes2Big (n : Nat) : Except PyErr (List UInt8) :=
  if n < 65536 then .ok [UInt8.ofNat (n / 256), UInt8.ofNat (n % 256)] else .error (.raised "OverflowError")

/-- `[f a b for a, b in zip(xs, ys)]` -/
def zipWithL (f : α → β → γ) : List α → List β → List γ
  | a :: as, b :: bs => f a b :: zipWithL f as bs
  | _, _ => []

/-- `next((i, b) for i, b in enumerate(xs) if p b)`; `none` is StopIteration -/
def firstIdx (p : Nat → Bool) : List UInt8 → Nat → Option (Nat × Nat)
  | [], _ => none
  | b :: bs, i => if p b.toNat then some (i, b.toNat) else firstIdx p bs (i + 1)

/-- `bytearray.partition(sep)` for a one-byte separator: (before, found, after) -/
def partition1 (sep : UInt8) : List UInt8 → List UInt8 × Bool × List UInt8
  | [] => ([], false, [])
  | b :: bs =>
    if b == sep then ([], true, bs)
    else let (h, f, t) := partition1 sep bs; (b :: h, f, t)

/-- `bytes([x]) in buf` -/
def bytesContains1 (needle buf : List UInt8) : Bool :=
  match needle with
  | [x] => buf.contains x
  | _ => false

/-- `bytearray.pop(i)`: the array without element `i` -/
def popAt (bs : List UInt8) (i : Nat) : Except PyErr (List UInt8) :=
  if i < bs.length then .ok (bs.eraseIdx i) else .error (.raised "IndexError")

/-- `xs[i]` on a list / tuple with a constant non-negative index -/
def listAt (xs : List α) (i : Nat) : Except PyErr α :=
  match xs[i]? with
  | some x => .ok x
  | none => .error (.raised "IndexError")

/-! ### insertion-ordered dict with small keys -/

def dictGet (d : List (Nat × β)) (k : Nat) : Option β := d.lookup k
/-- `d[k] = v`: an existing key keeps its position -/
def dictSet (d : List (Nat × β)) (k : Nat) (v : β) : List (Nat × β) :=
  if d.any (·.1 == k) then d.map (fun kv => if kv.1 == k then (k, v) else kv) else d ++ [(k, v)]
def dictIndex (d : List (Nat × β)) (k : Nat) : Except PyErr β :=
  match d.lookup k with
  | some v => .ok v
  | none => .error (.raised "KeyError")
def dictPop (d : List (Nat × β)) (k : Nat) : Except PyErr (β × List (Nat × β)) :=
  match d.lookup k with
  | some v => .ok (v, d.filter (·.1 != k))
  | none => .error (.raised "KeyError")

end BV.Py
