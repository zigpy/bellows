-- Root of the library: every property module (each imports its model and generated tables), and the
-- `byte_cases` tactic, which no property module imports.
import BV.Props.C01
import BV.Props.C02
import BV.Props.C03
import BV.Props.C04
import BV.Props.C05
import BV.Props.C06
import BV.Props.C07
import BV.Props.C08
import BV.Props.C09
import BV.Props.C10
import BV.Props.C11
import BV.Props.C12
import BV.Props.C13
import BV.Props.C17
import BV.Props.C14
import BV.Props.C15
import BV.Props.C16
import BV.Props.C18
import BV.Props.C19
import BV.Props.C20
import BV.Proofs.Src.ByteCases
